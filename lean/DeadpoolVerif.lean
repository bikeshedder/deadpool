import DeadpoolVerif.Model.Managed
import DeadpoolVerif.Model.Builder
import DeadpoolVerif.Model.PgConfig
import DeadpoolVerif.Model.PgPool
import DeadpoolVerif.Model.RedisConfig
import DeadpoolVerif.Model.RedisRecycle
import DeadpoolVerif.Model.Sem
import DeadpoolVerif.Model.Solo
import DeadpoolVerif.Model.Sync
import DeadpoolVerif.Model.SyncPools
import DeadpoolVerif.Model.Unmanaged
import DeadpoolVerif.Lemmas.Acct
import DeadpoolVerif.Lemmas.Step
import DeadpoolVerif.Lemmas.Queue
import DeadpoolVerif.Lemmas.GetStep
import DeadpoolVerif.Lemmas.GetLocal
import DeadpoolVerif.Lemmas.UStep
import DeadpoolVerif.Lemmas.Conserve
import DeadpoolVerif.Lemmas.Eff
import DeadpoolVerif.Lemmas.Frame
import DeadpoolVerif.Lemmas.Link
import DeadpoolVerif.Lemmas.ListAt
import DeadpoolVerif.Lemmas.Log
import DeadpoolVerif.Lemmas.NoResize
import DeadpoolVerif.Lemmas.ObjInv
import DeadpoolVerif.Lemmas.PgPool
import DeadpoolVerif.Lemmas.Reach
import DeadpoolVerif.Lemmas.Closed
import DeadpoolVerif.Lemmas.NoSlot
import DeadpoolVerif.Lemmas.GrowOnly
import DeadpoolVerif.Lemmas.LastEv
import DeadpoolVerif.Lemmas.MetLog
import DeadpoolVerif.Lemmas.Sem
import DeadpoolVerif.Lemmas.SoloGet
import DeadpoolVerif.Lemmas.SoloRun
import DeadpoolVerif.Lemmas.Sum
import DeadpoolVerif.Lemmas.Sync
import DeadpoolVerif.Lemmas.SyncPools
import DeadpoolVerif.Lemmas.UAcct
import DeadpoolVerif.Lemmas.UConserve
import DeadpoolVerif.Lemmas.UEmpty
import DeadpoolVerif.Props.C01
import DeadpoolVerif.Props.C02
import DeadpoolVerif.Props.C03
import DeadpoolVerif.Props.C04
import DeadpoolVerif.Props.C05
import DeadpoolVerif.Props.C06
import DeadpoolVerif.Props.C07
import DeadpoolVerif.Props.C08
import DeadpoolVerif.Props.C09
import DeadpoolVerif.Props.C10
import DeadpoolVerif.Props.C11
import DeadpoolVerif.Props.C12
import DeadpoolVerif.Props.C13
import DeadpoolVerif.Props.C14
import DeadpoolVerif.Props.C15
import DeadpoolVerif.Props.C16
import DeadpoolVerif.Props.C17
import DeadpoolVerif.Props.C18
import DeadpoolVerif.Props.C19
