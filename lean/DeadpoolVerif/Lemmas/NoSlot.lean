/-
Trace-level consequence of "close() is final": an operation that does not hold a capacity
token when the pool is closed never holds one again, and therefore never yields an object —
along *every* continuation.
-/
import DeadpoolVerif.Lemmas.Closed
import DeadpoolVerif.Lemmas.Log

namespace DeadpoolVerif

/-- the operation is not a `get()` that owns a capacity token: it has not obtained its slot
(yet), or it is not a get at all -/
def Op.noSlot : Op → Bool
  | .get _ pc => pc.permW == 0
  | _ => true

theorem Op.noSlot_iff_hold (x : Op) : x.noSlot = true ↔ x.hold ≠ .permit := by
  cases x with
  | get t pc => cases pc <;> simp [Op.noSlot, Op.hold, GPc.hold, GPc.permW]
  | _ => simp [Op.noSlot, Op.hold]

/-- inside a callback a get() owns a token -/
theorem Op.noSlot_of_lastEv {op : Op} {c : Cfg} {i : Nat} {e : Ev} (h : op.lastEv c i = some e) :
    op.noSlot = false := by
  unfold Op.lastEv at h
  split at h <;> first | rfl | cases h

/-- no call on a closed semaphore yields a permit -/
theorem SemCall.no_permit_of_closed {i : Nat} {a b : Sem} {h h' : Hold} (c : SemCall i a h h' b)
    (hc : a.closed = true) (hh : h ≠ .permit) : h' ≠ .permit := by
  cases c with
  | none => exact hh
  | tryOk hp => rw [Sem.tryAcquire_of_closed hc] at hp; cases hp
  | poll _ hp => rw [Sem.pollAcquire_of_closed _ hc] at hp; cases hp; decide
  | drop | pollDrop _ => decide
  | release => exact absurd rfl hh

theorem Op.noSlot_of_not_get {x : Op} (h : x.isGet = false) : x.noSlot = true := by
  cases x <;> first | rfl | cases h

/-- on a closed pool the step of an operation that owns no token leaves it without one: a get()
goes on to `Closed` / `NoRuntimeSpecified` / abandonment only, and no other operation becomes a
get() -/
theorem Fires.noSlot_closed {s s' : State} {i : Nat} {oc : Outcome} {y : Op} (f : Fires s i oc s' y)
    (hy : s.ops[i]? = some y) (hc : s.sem.closed = true) :
    ∃ x, s'.ops = s.ops.set i x ∧ (y.noSlot = true → x.noSlot = true) := by
  rcases f.get_or_nonget with ⟨t, pc, rfl, h⟩ | hg
  · obtain ⟨-, x, _, _, _, _, a, -, hsem⟩ := stepGet_spec h
    refine ⟨x, a.ops, fun hn => ?_⟩
    rcases hsem with ⟨rfl, -⟩ | ⟨-, c⟩
    · rfl
    · exact x.noSlot_iff_hold.mpr (c.no_permit_of_closed hc ((Op.noSlot_iff_hold _).mp hn))
  · obtain ⟨-, x, _, hx, -, hxg, -⟩ := f.nonget hy hg
    exact ⟨x, hx, fun _ => Op.noSlot_of_not_get hxg⟩

/-- the invariant behind `C06_no_object_after_close` -/
structure NoSlotAt (i : Nat) (s : State) : Prop where
  closed : s.sem.closed = true
  noSlot : ∀ op, s.ops[i]? = some op → op.noSlot = true

theorem NoSlotAt.step {i : Nat} {s s' : State} {a : Action} (k : NoSlotAt i s)
    (h : DeadpoolVerif.step s a = some s') :
    NoSlotAt i s' ∧ ∀ o, Ev.handout i o ∈ s'.log → Ev.handout i o ∈ s.log := by
  have hcm := step_closed_mono h k.closed
  cases step_cases h with
  | start x hi =>
    refine ⟨⟨hcm, fun op hop => ?_⟩, fun o ho => ho⟩
    replace hop : (s.ops ++ [x])[i]? = some op := hop
    rw [List.getElem?_append] at hop
    split at hop
    · exact k.noSlot op hop
    · cases List.mem_singleton.mp (List.mem_of_getElem? hop)
      rcases hi.isGet with ⟨t, rfl⟩ | hg
      · rfl
      · exact Op.noSlot_of_not_get hg
  | @op j _ y _ hy f =>
    obtain ⟨x, hx, hxn⟩ := f.noSlot_closed hy k.closed
    refine ⟨⟨hcm, fun op hop => ?_⟩, fun o ho => ?_⟩
    · by_cases e : i = j
      · subst e
        cases (getElem?_set_self' hy).symm.trans (hx ▸ hop)
        exact hxn (k.noSlot y hy)
      · exact k.noSlot op (List.getElem?_set_ne (Ne.symm e) ▸ hx ▸ hop)
    · -- a new hand-out to `i` would have been logged by `i` itself, owning a token
      rcases f.handout_by hy ho with h2 | ⟨rfl, _, he, -⟩
      · exact h2
      · cases (k.noSlot y hy).symm.trans (Op.noSlot_of_lastEv he)

end DeadpoolVerif
