/-
Type-generic list facts: what holds of every entry, by position or by membership, after one
entry is replaced or appended; the length after an `erase`; induction over a fold that skips
refused actions.  Import-free.
-/
namespace DeadpoolVerif

theorem forall_set {α : Type} {l : List α} {i : Nat} {x y : α} {P Q : Nat → α → Prop}
    (hy : l[i]? = some y) (h : ∀ j u, l[j]? = some u → P j u)
    (hx : P i y → Q i x) (hf : ∀ j u, j ≠ i → P j u → Q j u) :
    ∀ j u, (l.set i x)[j]? = some u → Q j u := by
  intro j u hj
  rw [List.getElem?_set] at hj
  split at hj
  · subst i
    split at hj
    · cases hj; exact hx (h _ _ hy)
    · cases hj
  · exact hf j u (fun e => by subst e; contradiction) (h j u hj)

theorem forall_append_single {α : Type} {l : List α} {x : α} {P Q : Nat → α → Prop}
    (h : ∀ j u, l[j]? = some u → P j u) (hx : Q l.length x)
    (hf : ∀ j u, j < l.length → P j u → Q j u) :
    ∀ j u, (l ++ [x])[j]? = some u → Q j u := by
  intro j u hj
  rcases Nat.lt_trichotomy j l.length with hlt | rfl | hgt
  · rw [List.getElem?_append_left hlt] at hj; exact hf j u hlt (h j u hj)
  · simp at hj; subst hj; exact hx
  · rw [List.getElem?_eq_none (by simp; omega)] at hj; cases hj

theorem forall_mem_set {α : Type} {P : α → Prop} {l : List α} {i : Nat} {x : α}
    (h : ∀ a ∈ l, P a) (hx : P x) : ∀ a ∈ l.set i x, P a := fun a ha =>
  (List.mem_or_eq_of_mem_set ha).elim (h a) (· ▸ hx)

theorem forall_mem_append_single {α : Type} {P : α → Prop} {l : List α} {x : α}
    (h : ∀ a ∈ l, P a) (hx : P x) : ∀ a ∈ l ++ [x], P a :=
  List.forall_mem_append.mpr ⟨h, fun _ ha => List.mem_singleton.mp ha ▸ hx⟩

theorem pairwise_append_single {α : Type} {R : α → α → Prop} {l : List α} {x : α}
    (h : l.Pairwise R) (hx : ∀ a ∈ l, R a x) : (l ++ [x]).Pairwise R :=
  List.pairwise_append.mpr ⟨h, List.pairwise_singleton _ _, fun a ha _ hb =>
    List.mem_singleton.mp hb ▸ hx a ha⟩

theorem set_map_self {α β : Type} {l : List α} {i : Nat} {t x : α} (f : α → β) (ht : l[i]? = some t)
    (hx : f x = f t) : (l.set i x).map f = l.map f := by
  obtain ⟨hlt, rfl⟩ := List.getElem?_eq_some_iff.mp ht
  rw [List.map_set, hx, ← List.getElem_map f (h := by simpa using hlt), List.set_getElem_self]

theorem lt_of_getElem? {α : Type} {l : List α} {i : Nat} {y : α} (h : l[i]? = some y) : i < l.length :=
  (List.getElem?_eq_some_iff.mp h).1

theorem set_self {α : Type} {l : List α} {i : Nat} {y : α} (h : l[i]? = some y) : l.set i y = l := by
  obtain ⟨hi, rfl⟩ := List.getElem?_eq_some_iff.mp h
  exact List.set_getElem_self hi

theorem getElem?_set_self' {α : Type} {l : List α} {i : Nat} {x y : α} (h : l[i]? = some y) :
    (l.set i x)[i]? = some x := by
  rw [List.getElem?_set_self (lt_of_getElem? h)]

theorem length_erase_add_one {α : Type} [BEq α] [LawfulBEq α] {l : List α} {a : α} (h : a ∈ l) :
    (l.erase a).length + 1 = l.length := by
  have := List.length_pos_of_mem h
  rw [List.length_erase_of_mem h]
  omega

/-- Induction over a fold that skips the actions a partial step function refuses (the shape of both
`run`s): what holds at the start and is preserved by the accepted steps of a list all of whose
actions satisfy `Q` holds at the end. -/
theorem foldl_getD_induction {σ α : Type} (step : σ → α → Option σ) {P : σ → Prop} {Q : α → Prop}
    {s : σ} {l : List α} (hq : ∀ a ∈ l, Q a) (h0 : P s)
    (hstep : ∀ s a s', P s → Q a → step s a = some s' → P s') :
    P (l.foldl (fun s a => (step s a).getD s) s) :=
  List.foldlRecOn l _ h0 fun s hs a ha => by
    cases hst : step s a with
    | none => exact hs
    | some s1 => exact hstep s a s1 hs (hq a ha) hst

end DeadpoolVerif
