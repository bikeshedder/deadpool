/-
C15: an environment that answers `Manager::recycle` honestly never sees a spoiled connection
handed out again.  Invariant and its preservation.
-/
import DeadpoolVerif.Model.SyncPools
import DeadpoolVerif.Lemmas.Log

namespace DeadpoolVerif
namespace SP

/-- what must hold of an operation: past the `Manager::recycle` callback the connection in hand
passed an honest check; connections on the creation path have never been handed out -/
def GoodOp (cfg : Cfg) (sp : Spoiled) : Op → Prop
  | .get _ (.recycling k o _) => cfg.pre.length < k → sp o.id o.handouts = false
  | .get _ (.createSize o) => o.handouts = 0
  | .get _ (.postCreate _ o _) => o.handouts = 0
  | _ => True

theorem GoodOp.of_not_get {cfg : Cfg} {sp : Spoiled} {x : Op} (h : x.isGet = false) :
    GoodOp cfg sp x := by
  cases x <;> trivial

/-- C15's invariant: no operation is on its way to handing out a spoiled connection, and no
hand-out in the log is the re-issue of one that was spoiled at the end of its previous use -/
structure J (sp : Spoiled) (s : State) : Prop where
  ops : ∀ op ∈ s.ops, GoodOp s.cfg sp op
  log : ∀ i o, Ev.handout i o ∈ s.log → 1 < o.handouts → sp o.id (o.handouts - 1) = false

theorem J.init (sp : Spoiled) (cfg : Cfg) : J sp (init cfg) := by
  constructor <;> simp [DeadpoolVerif.init]

/-- an honest `ok` at the `Manager::recycle` callback -/
theorem okAllowed_recycle {sp : Spoiled} {s : State} {i : Nat} {t : Timeouts} {o : Obj} {b : Bool}
    (hy : s.ops[i]? = some (.get t (.recycling s.cfg.pre.length o b)))
    (h : okAllowed sp s (.step i .ok) = true) : sp o.id o.handouts = false := by
  simpa [okAllowed, hy] using h

/-- the object a get() is recycling stays good: the callbacks up to `Manager::recycle` promise
nothing, the honest `ok` of `Manager::recycle` says it is not spoiled, later ones keep that;
and only such an object, or a new one, is handed out -/
theorem _root_.DeadpoolVerif.GetStep.good {sp : Spoiled} {s : State} {i : Nat} {t : Timeouts} {pc : GPc} {oc : Outcome}
    {x : Op} {es : List Ev} {idle out : List Obj} {n : Nat}
    (st : GetStep s i t pc oc x es idle out n) (hy : s.ops[i]? = some (.get t pc))
    (hg : GoodOp s.cfg sp (.get t pc)) (hok : okAllowed sp s (.step i oc) = true) :
    GoodOp s.cfg sp x ∧
      ∀ j o, Ev.handout j o ∈ es → 1 < o.handouts → sp o.id (o.handouts - 1) = false := by
  have hrec : ∀ {k o b}, pc = .recycling k o b → oc = .ok → s.cfg.pre.length < k + 1 →
      sp o.id o.handouts = false := by
    intro k o b hp ho hk
    subst hp ho
    by_cases e : k = s.cfg.pre.length
    · subst e; exact okAllowed_recycle hy hok
    · exact hg (by omega)
  refine ⟨?_, fun j o' h hn => ?_⟩
  · cases st with
    | pop => exact fun h => absurd h (Nat.not_lt_zero _)
    | recycleNext => exact hrec rfl rfl
    | recycleWait | sized | hookNext | hookWait => exact hg
    | created => rfl
    | acquire hp => rcases hp with rfl | ⟨rfl, -⟩ | ⟨r, -, rfl⟩ <;> trivial
    | queued hp => rcases hp with rfl | rfl | ⟨r, -, rfl⟩ <;> trivial
    | detached hp => rcases hp with ⟨-, rfl⟩ | ⟨r, -, rfl⟩ | rfl <;> trivial
    | _ => trivial
  · obtain ⟨o, kind⟩ := st.handsOut h
    obtain ⟨_, k, b, e, ho, hk, rfl⟩ | ⟨_, k, b, e, -, -, rfl⟩ | ⟨_, e, -, -, rfl⟩ := kind <;> cases e
    · exact hrec rfl ho (by simp only [Cfg.nRecycle] at hk; omega)
    all_goals
      have h0 : o.handouts = 0 := hg
      simp [Obj.bump, h0] at hn

theorem J.step {sp : Spoiled} {s s' : State} {a : Action} (h : J sp s)
    (hok : okAllowed sp s a = true) (hs : step s a = some s') : J sp s' := by
  cases step_cases hs with
  | start _ hi =>
    refine ⟨forall_mem_append_single h.ops ?_, h.log⟩
    rcases hi.isGet with ⟨t, rfl⟩ | hg
    · trivial
    · exact GoodOp.of_not_get hg
  | @op i _ y s1 hy f =>
    -- `cfg` stays; the replaced operation is good and so are the hand-outs just logged
    suffices g : s1.cfg = s.cfg ∧ ∃ x es, s1.ops = s.ops.set i x ∧ s1.log = s.log ++ es ∧
        GoodOp s.cfg sp x ∧
        ∀ j o, Ev.handout j o ∈ es → 1 < o.handouts → sp o.id (o.handouts - 1) = false by
      obtain ⟨hcfg, x, es, hx, hes, gx, ges⟩ := g
      refine ⟨?_, fun j o ho => ?_⟩
      · show ∀ op ∈ s1.ops, GoodOp s1.cfg sp op
        rw [hcfg, hx]
        exact forall_mem_set h.ops gx
      · have ho : Ev.handout j o ∈ s1.log := ho
        rw [hes] at ho
        exact (List.mem_append.mp ho).elim (h.log j o) (ges j o)
    have hgy := h.ops y (List.mem_of_getElem? hy)
    rcases f.get_or_nonget with ⟨t, pc, rfl, hg⟩ | hng
    · obtain ⟨fr, x, es, _, _, _, a, st, -⟩ := stepGet_spec hg
      exact ⟨fr.cfg, x, es, a.ops, a.log, st.good hy hgy hok⟩
    · obtain ⟨hcfg, x, es, hx, hes, hxg, hno⟩ := f.nonget hy hng
      exact ⟨hcfg, x, es, hx, hes, GoodOp.of_not_get hxg,
        fun j o ho => absurd rfl ((hno _ ho).1 j o)⟩

theorem J.run {sp : Spoiled} {s : State} {acts : List Action} (h : J sp s) (hh : Honest sp s acts) :
    J sp (DeadpoolVerif.run s acts) :=
  run_induction_guarded (G := Honest sp) id
    (fun _ _ _ h => h.step) acts h hh

end SP
end DeadpoolVerif
