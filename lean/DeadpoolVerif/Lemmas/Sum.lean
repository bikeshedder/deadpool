/-
`sumW`: a weight summed over a list (of operations, events, objects, ids).
-/
namespace DeadpoolVerif

def sumW {α : Type} (f : α → Nat) (l : List α) : Nat := (l.map f).sum

@[simp] theorem sumW_nil {α : Type} (f : α → Nat) : sumW f ([] : List α) = 0 := rfl

@[simp] theorem sumW_cons {α : Type} (f : α → Nat) (a : α) (l : List α) :
    sumW f (a :: l) = f a + sumW f l := by
  simp [sumW]

@[simp] theorem sumW_append {α : Type} (f : α → Nat) (l₁ l₂ : List α) :
    sumW f (l₁ ++ l₂) = sumW f l₁ + sumW f l₂ := by
  simp [sumW]

/-- the sum over a list with the contribution of entry `i` split off -/
theorem sumW_eraseIdx {α : Type} (f : α → Nat) {l : List α} {i : Nat} {y : α}
    (h : l[i]? = some y) : sumW f l = f y + sumW f (l.eraseIdx i) := by
  induction l generalizing i with
  | nil => simp at h
  | cons a l ih =>
    cases i with
    | zero => cases h; simp
    | succ i => simp only [List.eraseIdx_cons_succ, sumW_cons, ih h]; omega

theorem sumW_set_eq {α : Type} (f : α → Nat) {l : List α} {i : Nat} {y : α} (x : α)
    (h : l[i]? = some y) : sumW f (l.set i x) = f x + sumW f (l.eraseIdx i) := by
  rw [sumW_eraseIdx f (List.getElem?_set_self (List.getElem?_eq_some_iff.mp h).1), List.eraseIdx_set_eq]

theorem sumW_set {α : Type} (f : α → Nat) (l : List α) (i : Nat) (x y : α)
    (h : l[i]? = some y) : sumW f (l.set i x) + f y = sumW f l + f x := by
  rw [sumW_set_eq f x h, sumW_eraseIdx f h]
  omega

theorem sumW_mem_le {α : Type} (f : α → Nat) {l : List α} {i : Nat} {y : α}
    (h : l[i]? = some y) : f y ≤ sumW f l := by
  rw [sumW_eraseIdx f h]
  omega

theorem sumW_le_of_mem {α : Type} (f : α → Nat) {l : List α} {y : α} (h : y ∈ l) : f y ≤ sumW f l := by
  obtain ⟨i, hi⟩ := List.getElem?_of_mem h
  exact sumW_mem_le f hi

theorem sumW_erase {α : Type} [BEq α] [LawfulBEq α] (f : α → Nat) {l : List α} {a : α}
    (h : a ∈ l) : sumW f (l.erase a) + f a = sumW f l := by
  induction l with
  | nil => cases h
  | cons b l ih =>
    by_cases e : b = a
    · subst e; simp only [List.erase_cons_head, sumW_cons]; omega
    · have := ih ((List.mem_cons.mp h).resolve_left (Ne.symm e))
      rw [List.erase_cons_tail (by simpa using e)]
      simp only [sumW_cons]
      omega

theorem sumW_le {α : Type} (f g : α → Nat) (l : List α) (h : ∀ a, f a ≤ g a) :
    sumW f l ≤ sumW g l := by
  induction l with
  | nil => simp
  | cons a l ih =>
    simp only [sumW_cons]
    have := h a
    omega

theorem sumW_congr {α : Type} {f g : α → Nat} {l : List α} (h : ∀ a ∈ l, f a = g a) :
    sumW f l = sumW g l :=
  congrArg List.sum (List.map_congr_left h)

theorem sumW_add {α : Type} (f g : α → Nat) (l : List α) :
    sumW (fun a => f a + g a) l = sumW f l + sumW g l := by
  induction l with
  | nil => rfl
  | cons a l ih => rw [sumW_cons, sumW_cons, sumW_cons, ih, Nat.add_add_add_comm]

theorem length_filterMap_eq_sumW {α β : Type} (f : α → Option β) (l : List α) :
    (l.filterMap f).length = sumW (fun a => (f a).toList.length) l := by
  induction l with
  | nil => rfl
  | cons a l ih =>
    rw [List.filterMap_cons, sumW_cons, ← ih]
    cases f a <;> simp [Nat.add_comm]

theorem sumW_eq_zero_iff {α : Type} {f : α → Nat} {l : List α} :
    sumW f l = 0 ↔ ∀ a ∈ l, f a = 0 :=
  List.sum_eq_zero_iff_forall_eq_nat.trans List.forall_mem_map

theorem exists_pos_of_sumW_pos {α : Type} (f : α → Nat) (l : List α) (h : 0 < sumW f l) :
    ∃ a ∈ l, 0 < f a := by
  obtain ⟨_, hx, hp⟩ := List.sum_pos_iff_exists_pos_nat.mp h
  obtain ⟨a, ha, rfl⟩ := List.mem_map.mp hx
  exact ⟨a, ha, hp⟩

theorem sumW_sublist {α : Type} (f : α → Nat) {l₁ l₂ : List α} (h : l₁.Sublist l₂) :
    sumW f l₁ ≤ sumW f l₂ := by
  induction h with
  | slnil => simp
  | cons a _ ih | cons_cons a _ ih => simp only [sumW_cons]; omega

end DeadpoolVerif
