/-
How a step of the managed pool model is taken apart (`Step`, `step_cases`): an operation is
started (`State.start`, `startOp_spec`) or the operation found at the index makes a step of its
own (`Fires`: which step function ran), then the clock ticks (`State.tick`); a run is a fold of
steps (`run_induction`, `run_of_run?`).  Every invariant is proved through these statements.
`View` / `After` are how a traversal says what a step leaves in the fields the object-level
invariants see.
-/
import DeadpoolVerif.Model.Managed
import DeadpoolVerif.Lemmas.ListAt

namespace DeadpoolVerif

/-- `Fires s i oc s' y`: the enabled `stepOp s i oc = some s'` found `y` at index `i`; the
constructor says which step function ran (the outcome it ran on is not recorded: every operation
other than a get() steps on `.run`, its panic branches on `.panic`).  `cases` on it is the one
case analysis of `stepOp`. -/
inductive Fires (s : State) (i : Nat) (oc : Outcome) (s' : State) : Op → Prop
  | get {t pc} (h : stepGet s i t pc oc = some s') : Fires s i oc s' (.get t pc)
  | ret {pc o} (h : stepRet s i pc o = some s') : Fires s i oc s' (.ret pc o)
  | retPanic {o} (h : stepRetPanic s i o = some s') : Fires s i oc s' (.ret .detach o)
  | take {pc o add} (h : stepTake s i pc o add = some s') : Fires s i oc s' (.take pc o add)
  | takePanic {o add} (h : stepTakePanic s i o = some s') : Fires s i oc s' (.take .detach o add)
  | resize {n c pc old} (h : stepResize s i n c pc old = some s') :
      Fires s i oc s' (.resize n c pc old)
  | retain {keep} (h : stepRetain s i keep = some s') : Fires s i oc s' (.retain keep)
  | status (h : stepStatus s i = some s') : Fires s i oc s' .status

theorem stepOp_fires {s s' : State} {i : Nat} {oc : Outcome} (hs : stepOp s i oc = some s') :
    ∃ y, s.ops[i]? = some y ∧ Fires s i oc s' y := by
  unfold stepOp at hs
  split at hs
  · cases hs
  · rename_i y hy
    refine ⟨y, hy, ?_⟩
    cases y <;> dsimp only at hs <;> (try split at hs)
    case get => exact .get hs
    case ret.isTrue | take.isTrue | resize.isTrue | retain.isTrue | status.isTrue => constructor; exact hs
    -- the guard of `ret` / `take` failed (`oc ≠ .run`): the only enabled step left is the panic of
    -- `Manager::detach`, at `pc = .detach`; every other program counter contradicts `hs`
    case ret.isFalse =>
      split at hs <;> simp_all
      exact .retPanic hs
    case take.isFalse =>
      split at hs <;> simp_all
      exact .takePanic hs
    all_goals cases hs

/-- All leaves of a step function: unfold it (and the helpers named with it) in
`hs : f … = some s'`, split every `match` and `if`, drop the branches that are not enabled, and
replace `s'` by the state the branch builds. -/
macro "leaves " "[" fs:ident,* "]" " at " hs:ident : tactic => `(tactic| (
  simp only [$[$fs:ident],*] at $hs:ident
  repeat' split at $hs:ident
  all_goals cases $hs:ident))

/-- the part of the state that the object- and log-level invariants can see, as one record, so that
a traversal states what a leaf leaves there by one equation closed by `rfl` (`Eff.intro`) -/
structure View where
  cfg : Cfg
  idle : List Obj
  out : List Obj
  ops : List Op
  nextId : Nat
  now : Nat
  log : List Ev

def State.view (s : State) : View := ⟨s.cfg, s.idle, s.out, s.ops, s.nextId, s.now, s.log⟩

/-- the view of `s'`, field by field, against that of `s`: the operation list is `ops`, the log grew
by `es`, the idle queue, the checked-out objects and the next id are `idle`, `out`, `n` -/
structure After (s s' : State) (ops : List Op) (es : List Ev) (idle out : List Obj) (n : Nat) :
    Prop where
  cfg : s'.cfg = s.cfg
  idle : s'.idle = idle
  out : s'.out = out
  ops : s'.ops = ops
  nextId : s'.nextId = n
  now : s'.now = s.now
  log : s'.log = s.log ++ es

/-- the operation a call starts as -/
def Op.init : Spec → Op → Prop
  | .get t, x => x = .get t .enter
  | .ret id, x => ∃ o, o.id = id ∧ x = .ret .users o
  | .take id, x => ∃ o, o.id = id ∧ x = .take .users o false
  | .resize n, x => x = .resize n false .enter 0
  | .close, x => x = .resize 0 true .enter 0
  | .retain keep, x => x = .retain keep
  | .status, x => x = .status

/-- the state after the operation `x` has been started: it is appended to `ops`, the object a
return or a take comes with leaves the caller's hands; nothing else changes -/
def State.start (s : State) (x : Op) : State :=
  { s with ops := s.ops ++ [x], out := match x.held with | some o => s.out.erase o | none => s.out }

theorem startOp_spec {s s' : State} {sp : Spec} (hs : startOp s sp = some s') :
    ∃ x, Op.init sp x ∧ (∀ o, x.held = some o → o ∈ s.out) ∧ s' = s.start x := by
  cases sp
  case ret | take =>
    leaves [startOp] at hs
    have hf := List.find?_some ‹findOut _ _ = some _›
    have hm := List.mem_of_find?_eq_some ‹findOut _ _ = some _›
    exact ⟨_, ⟨_, by simpa using hf, rfl⟩, fun _ h => Option.some.inj h ▸ hm, rfl⟩
  all_goals cases hs; exact ⟨_, rfl, nofun, rfl⟩

theorem State.start_out_sublist (s : State) (x : Op) : (s.start x).out.Sublist s.out := by
  unfold State.start
  split
  · exact List.erase_sublist
  · exact .refl _

/-- the clock tick that ends every step -/
def State.tick (s : State) : State := { s with now := s.now + 1 }

/-- **One step**, taken apart: an operation is started, or the operation found at `i` makes a step of
its own; then the clock ticks. -/
inductive Step (s : State) : Action → State → Prop
  | start {sp} (x : Op) (hi : Op.init sp x) (hm : ∀ o, x.held = some o → o ∈ s.out) :
      Step s (.start sp) (s.start x).tick
  | op {i oc} (y : Op) (s1 : State) (hy : s.ops[i]? = some y) (f : Fires s i oc s1 y) :
      Step s (.step i oc) s1.tick

theorem step_cases {s s' : State} {a : Action} (hs : step s a = some s') : Step s a s' := by
  unfold step at hs
  obtain ⟨s1, h1, rfl⟩ := Option.map_eq_some_iff.mp hs
  cases a with
  | start sp => obtain ⟨x, hi, hm, rfl⟩ := startOp_spec h1; exact .start x hi hm
  | step i oc => obtain ⟨y, hy, f⟩ := stepOp_fires h1; exact .op y s1 hy f

theorem run_of_run? {s s' : State} {as : List Action} (h : run? s as = some s') : run s as = s' := by
  induction as generalizing s with
  | nil => cases h; rfl
  | cons a as ih =>
    simp only [run?, Option.bind_eq_some_iff] at h
    obtain ⟨s1, h1, h⟩ := h
    rw [run_cons, h1]; exact ih h

/-- Induction over a run all of whose actions satisfy `Q`: what holds at the start and is
preserved by the enabled steps holds at the end. -/
theorem run_induction_on {P : State → Prop} {Q : Action → Prop} {s : State} {acts : List Action}
    (hq : ∀ a ∈ acts, Q a) (h0 : P s)
    (hstep : ∀ s a s', P s → Q a → step s a = some s' → P s') : P (run s acts) :=
  foldl_getD_induction step hq h0 hstep

theorem run_induction {P : State → Prop} {s : State} (acts : List Action) (h0 : P s)
    (hstep : ∀ s a s', P s → step s a = some s' → P s') : P (run s acts) :=
  run_induction_on (fun _ _ => trivial) h0 fun s a s' h _ => hstep s a s' h

/-- The same along a run each action of which passes a guard `g` in the state it is taken in;
`G` is the recursive predicate saying so (`SP.Honest`, `GrowOnly`). -/
theorem run_induction_guarded {P : State → Prop} {G : State → List Action → Prop}
    {g : State → Action → Prop}
    (hG : ∀ {s a as}, G s (a :: as) → g s a ∧ G ((step s a).getD s) as)
    (hstep : ∀ s a s', P s → g s a → step s a = some s' → P s')
    {s : State} (acts : List Action) (h0 : P s) (hg : G s acts) : P (run s acts) := by
  induction acts generalizing s with
  | nil => exact h0
  | cons a as ih =>
    obtain ⟨ha, hrest⟩ := hG hg
    rw [run_cons]
    cases hst : step s a with
    | none => rw [hst] at hrest; exact ih h0 hrest
    | some s1 => rw [hst] at hrest; exact ih (hstep s a s1 h0 ha hst) hrest

end DeadpoolVerif
