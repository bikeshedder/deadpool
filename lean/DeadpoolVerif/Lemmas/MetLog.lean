/-
Metrics against the event log (C13 at trace level): for every object id, the hand-out events
of that id in the log, in order, carry `recycle_count` 0, 1, 2, ... (the ghost `handouts`
counter is the real number of hand-out events), one creation instant, and last-recycled
instants that never move backwards; and every live object agrees with the log.
-/
import DeadpoolVerif.Lemmas.ObjInv
import DeadpoolVerif.Lemmas.Log

namespace DeadpoolVerif

/-- `a ≤ b` on optional instants, `none` (never recycled) lowest -/
def optLE : Option Nat → Option Nat → Prop
  | none, _ => True
  | some _, none => False
  | some a, some b => a ≤ b

theorem optLE_refl (a : Option Nat) : optLE a a := by
  cases a <;> simp [optLE]

theorem optLE_some {a b : Option Nat} {n : Nat} (h : optLE a b) (hb : ∀ r, b = some r → r ≤ n) :
    optLE a (some n) := by
  cases a with
  | none => trivial
  | some x =>
    cases b with
    | none => cases h
    | some y => exact Nat.le_trans h (hb y rfl)

/-- the object carried by a hand-out event of object id `x` -/
def Ev.hoObj (x : Nat) : Ev → Option Obj
  | .handout _ o => if o.id = x then some o else none
  | _ => none

/-- the objects (with metrics) of the hand-out events of id `x`, oldest first -/
def hoOf (x : Nat) (log : List Ev) : List Obj := log.filterMap (Ev.hoObj x)

theorem hoOf_append (x : Nat) (a b : List Ev) : hoOf x (a ++ b) = hoOf x a ++ hoOf x b := by
  simp [hoOf]

theorem mem_hoOf {x : Nat} {log : List Ev} {p : Obj} (h : p ∈ hoOf x log) :
    p.id = x ∧ ∃ i, Ev.handout i p ∈ log := by
  obtain ⟨e, he, hp⟩ := List.mem_filterMap.mp h
  cases e <;> simp only [Ev.hoObj, reduceCtorEq] at hp
  split at hp <;> cases hp
  exact ⟨‹_›, _, he⟩

theorem hoOf_single_handout (x i : Nat) (o : Obj) (r : Res) :
    hoOf x [Ev.handout i o, Ev.result i r] = if o.id = x then [o] else [] := by
  by_cases h : o.id = x <;> simp [hoOf, Ev.hoObj, h]

theorem hoOf_noHo {es : List Ev} (h : noHo es) (x : Nat) : hoOf x es = [] := by
  simp only [hoOf, List.filterMap_eq_nil_iff]
  intro e he
  have := h e he
  cases e <;> first | rfl | cases this

/-- same identity and metrics (the ghost `idleSince` may differ) -/
def metEq (o o' : Obj) : Prop :=
  o'.id = o.id ∧ o'.created = o.created ∧ o'.recycled = o.recycled ∧ o'.rc = o.rc ∧
    o'.handouts = o.handouts

theorem metEq_refl (o : Obj) : metEq o o := ⟨rfl, rfl, rfl, rfl, rfl⟩

/-- a live object agrees with the hand-out events of its id -/
def Obj.agrees (log : List Ev) (o : Obj) : Prop :=
  o.handouts = (hoOf o.id log).length ∧
    ∀ p ∈ hoOf o.id log, p.created = o.created ∧ optLE p.recycled o.recycled

theorem Obj.agrees_metEq {log : List Ev} {o o' : Obj} (h : o.agrees log) (e : metEq o o') :
    o'.agrees log := by
  obtain ⟨e1, e2, e3, _, e5⟩ := e
  unfold Obj.agrees at *
  rw [e1, e2, e3, e5]
  exact h

theorem mem_live_iff {s : State} {o : Obj} :
    o ∈ s.live ↔ o ∈ s.idle ∨ o ∈ s.out ∨ ∃ op ∈ s.ops, op.held = some o := by
  simp only [State.live, List.mem_append, List.mem_filterMap, or_assoc]

theorem live_of_idle {s : State} {o : Obj} (h : o ∈ s.idle) : o ∈ s.live :=
  mem_live_iff.mpr (Or.inl h)

theorem live_of_out {s : State} {o : Obj} (h : o ∈ s.out) : o ∈ s.live :=
  mem_live_iff.mpr (Or.inr (Or.inl h))

theorem live_of_op {s : State} {y : Op} {o : Obj} (h : y ∈ s.ops)
    (hy : y.held = some o) : o ∈ s.live :=
  mem_live_iff.mpr (Or.inr (Or.inr ⟨y, h, hy⟩))

structure MetLog (s : State) : Prop where
  live : ∀ o ∈ s.live, o.agrees s.log
  idx : ∀ x k p, (hoOf x s.log)[k]? = some p → p.handouts = k + 1
  created : ∀ x, ∀ p ∈ hoOf x s.log, ∀ q ∈ hoOf x s.log, p.created = q.created
  mono : ∀ x, (hoOf x s.log).Pairwise (fun p q => optLE p.recycled q.recycled)
  ids : ∀ x, s.nextId ≤ x → hoOf x s.log = []

theorem MetLog.init (cfg : Cfg) : MetLog (init cfg) := by
  refine ⟨?_, ?_, ?_, ?_, ?_⟩ <;> simp [DeadpoolVerif.init, State.live, hoOf]

/-- transitions that log no hand-out: every live object of the new state is a live object of
the old one (same metrics) or a new object with a fresh id -/
theorem MetLog.of_noHo {s s' : State} (m : MetLog s) (es : List Ev) (hlog : s'.log = s.log ++ es)
    (hes : noHo es) (hn : s.nextId ≤ s'.nextId)
    (hlive : ∀ o' ∈ s'.live, (∃ o ∈ s.live, metEq o o') ∨ (s.nextId ≤ o'.id ∧ o'.handouts = 0)) :
    MetLog s' := by
  have hh : ∀ x, hoOf x s'.log = hoOf x s.log := by
    intro x; rw [hlog, hoOf_append, hoOf_noHo hes, List.append_nil]
  refine ⟨fun o' ho' => ?_, fun x => hh x ▸ m.idx x, fun x => hh x ▸ m.created x,
    fun x => hh x ▸ m.mono x, fun x hx => hh x ▸ m.ids x (Nat.le_trans hn hx)⟩
  unfold Obj.agrees
  rw [hh]
  rcases hlive o' ho' with ⟨o, ho, e⟩ | ⟨h1, h2⟩
  · exact Obj.agrees_metEq (m.live o ho) e
  · rw [m.ids _ h1]
    exact ⟨h2, nofun⟩

theorem idCnt_pos_of_mem {l : List Obj} {o : Obj} (h : o ∈ l) : 1 ≤ idCnt o.id l := by
  have := sumW_le_of_mem (fun o' : Obj => eqInd o'.id o.id) h
  simp only [eqInd, if_true] at this
  exact this

theorem Op.held_timeOK {op : Op} {o : Obj} {n : Nat} (h : op.held = some o) (ok : op.objOK n) :
    o.timeOK n := by
  cases op with
  | get t pc | ret pc o2 => cases pc <;> cases h <;> exact ok.2
  | take pc o2 a => cases h; exact ok.2
  | _ => cases h

/-- the hand-outs of one id, oldest first: numbered 1, 2, ..; one creation instant; recycled
instants that do not go back -/
def Hist (l : List Obj) : Prop :=
  (∀ k p, l[k]? = some p → p.handouts = k + 1) ∧ (∀ p ∈ l, ∀ q ∈ l, p.created = q.created) ∧
    l.Pairwise fun p q => optLE p.recycled q.recycled

theorem MetLog.hist {s : State} (m : MetLog s) (x : Nat) : Hist (hoOf x s.log) :=
  ⟨m.idx x, m.created x, m.mono x⟩

/-- the next hand-out extends the history if the object agreed with it (`Obj.agrees`) -/
theorem Hist.snoc {l : List Obj} {ob : Obj} (h : Hist l) (hn : ob.handouts = l.length + 1)
    (hp : ∀ p ∈ l, p.created = ob.created ∧ optLE p.recycled ob.recycled) :
    Hist (l ++ [ob]) ∧ ∀ p ∈ l ++ [ob], p.created = ob.created ∧ optLE p.recycled ob.recycled := by
  have all : ∀ p ∈ l ++ [ob], p.created = ob.created ∧ optLE p.recycled ob.recycled :=
    forall_mem_append_single hp ⟨rfl, optLE_refl _⟩
  refine ⟨⟨fun k p hk => ?_, fun p hm q hq => (all p hm).1.trans (all q hq).1.symm, ?_⟩, all⟩
  · exact forall_append_single h.1 hn (fun _ _ _ h => h) k p hk
  · exact pairwise_append_single h.2.2 fun a ha => (hp a ha).2

/-- after the hand-out of `o` as `ob` the id is in one place only (`Conserve` of the new state):
every live object is `ob`, or an object that was live before and has another id -/
theorem live_after_out {s s' : State} {i : Nat} {x : Op} {o ob : Obj} {es : List Ev}
    (hx : x.held = none) (hopid : ob.id = o.id)
    (a : After s s' (s.ops.set i x) es s.idle (s.out ++ [ob]) s.nextId) (c' : Conserve s') :
    o.id < s.nextId ∧ ∀ o' ∈ s'.live, o' = ob ∨ (o'.id ≠ o.id ∧ o' ∈ s.live) := by
  have hpl := c'.place o.id
  rw [a.out, a.idle, a.ops, a.nextId, idCnt_append, idCnt_cons, idCnt_nil, hopid] at hpl
  have hone : eqInd o.id o.id = 1 := by simp [eqInd]
  have hlt := ltInd_le_one o.id s.nextId
  have z1 : idCnt o.id s.idle = 0 := by omega
  have z2 : idCnt o.id s.out = 0 := by omega
  have z3 : sumW (Op.heldCnt o.id) (s.ops.set i x) = 0 := by omega
  have ne : ∀ {l : List Obj} {o'}, idCnt o.id l = 0 → o' ∈ l → o'.id ≠ o.id := fun z h e => by
    have := idCnt_pos_of_mem h
    rw [e, z] at this; omega
  refine ⟨ltInd_pos.mp (by omega), fun o' ho' => ?_⟩
  rw [mem_live_iff, a.out, a.idle, a.ops] at ho'
  rcases ho' with h1 | h1 | ⟨op2, hop2, hh2⟩
  · exact .inr ⟨ne z1 h1, live_of_idle h1⟩
  · rcases List.mem_append.mp h1 with h2 | h2
    · exact .inr ⟨ne z2 h2, live_of_out h2⟩
    · exact .inl (List.mem_singleton.mp h2)
  · have hle2 := sumW_le_of_mem (Op.heldCnt o.id) hop2
    rw [z3, Op.heldCnt_some hh2] at hle2
    refine .inr ⟨fun e => by simp [eqInd, e] at hle2, ?_⟩
    rcases List.mem_or_eq_of_mem_set hop2 with h3 | rfl
    · exact live_of_op h3 hh2
    · rw [hx] at hh2; cases hh2

/-- the hand-out: the object `o` in the hands of operation `i` goes to the caller as `ob` -/
theorem MetLog.out {s s' : State} {i : Nat} {x : Op} {o ob : Obj} (m : MetLog s)
    (holive : o ∈ s.live) (hot : o.timeOK s.now) (hx : x.held = none)
    (hb : ob.id = o.id ∧ ob.created = o.created ∧ ob.handouts = o.handouts + 1 ∧
      (ob.recycled = o.recycled ∨ ob.recycled = some s.now))
    (a : After s s' (s.ops.set i x) [Ev.handout i ob, Ev.result i (.ok ob.id)] s.idle (s.out ++ [ob])
      s.nextId)
    (c' : Conserve s') : MetLog s' := by
  obtain ⟨hopid, hb2, hb3, hb4⟩ := hb
  have hoa := m.live o holive
  have hh : ∀ x, hoOf x s'.log = hoOf x s.log ++ (if ob.id = x then [ob] else []) := fun x => by
    rw [a.log, hoOf_append, hoOf_single_handout]
  have same : ∀ x, ob.id ≠ x → hoOf x s'.log = hoOf x s.log := fun x hx => by
    rw [hh, if_neg hx, List.append_nil]
  -- every earlier hand-out of this id is below the new one
  have hle : ∀ p ∈ hoOf o.id s.log, p.created = ob.created ∧ optLE p.recycled ob.recycled := by
    intro p hp
    obtain ⟨q1, q2⟩ := hoa.2 p hp
    refine ⟨q1.trans hb2.symm, ?_⟩
    rcases hb4 with e | e <;> rw [e]
    · exact q2
    · exact optLE_some q2 fun r hr => (hot.2.2 r hr).2
  obtain ⟨hidlt, others⟩ := live_after_out hx hopid a c'
  obtain ⟨hsn, hall⟩ := (m.hist o.id).snoc (hb3.trans (by rw [hoa.1])) hle
  have hist : ∀ x, Hist (hoOf x s'.log) := fun x => by
    by_cases hx : ob.id = x
    · rw [hh, if_pos hx, ← hx, hopid]; exact hsn
    · rw [same x hx]; exact m.hist x
  refine ⟨fun o' ho' => ?_, fun x => (hist x).1, fun x => (hist x).2.1, fun x => (hist x).2.2,
    fun x hx => ?_⟩
  · rcases others o' ho' with rfl | ⟨hne, hl⟩
    · unfold Obj.agrees
      rw [hh, if_pos rfl, hopid]
      exact ⟨by simp [hb3, hoa.1], hall⟩
    · have := m.live o' hl
      unfold Obj.agrees at *
      rwa [same _ (fun e => hne (e.symm.trans hopid))]
  · rw [a.nextId] at hx
    rw [same x (by rw [hopid]; omega)]
    exact m.ids x hx

/-- where the objects a move leaves in the pool come from, if it is not the hand-out -/
theorem Move.live {s : State} {i : Nat} {y x : Op} {oc : Outcome} {es : List Ev}
    {idle out : List Obj} {n : Nat} (m : Move s i y oc x es idle out n) (hy : s.ops[i]? = some y)
    (hno : noHo es) :
    s.nextId ≤ n ∧ ∀ o', o' ∈ idle ∨ o' ∈ out ∨ x.held = some o' →
      (∃ o ∈ s.live, metEq o o') ∨ s.nextId ≤ o'.id ∧ o'.handouts = 0 := by
  have old : ∀ {o'}, o' ∈ s.live → (∃ o ∈ s.live, metEq o o') ∨ s.nextId ≤ o'.id ∧ o'.handouts = 0 :=
    fun h => .inl ⟨_, h, metEq_refl _⟩
  have same : ∀ o', o' ∈ s.idle ∨ o' ∈ s.out ∨ y.held = some o' → o' ∈ s.live := fun o' h =>
    h.elim live_of_idle fun h => h.elim live_of_out (live_of_op (List.mem_of_getElem? hy))
  cases m with
  | out _ _ => exact absurd List.mem_cons_self (hno.not_mem i _)
  | stay hh _ _ _ _ => exact ⟨Nat.le_refl _, fun o' h => old (same o' (hh ▸ h))⟩
  | pop _ hp =>
    obtain ⟨hm, hsub⟩ := popIdle_mem hp
    refine ⟨Nat.le_refl _, fun o' h => old ?_⟩
    rcases h with h | h | h
    · exact live_of_idle (hsub.subset h)
    · exact live_of_out h
    · cases h; exact live_of_idle hm
  | new hy' =>
    refine ⟨Nat.le_succ _, fun o' h => ?_⟩
    rcases h with h | h | h
    · exact old (live_of_idle h)
    · exact old (live_of_out h)
    · cases h; exact .inr ⟨Nat.le_refl _, rfl⟩
  | gone _ hx _ _ _ _ _ =>
    refine ⟨Nat.le_refl _, fun o' h => old (same o' ?_)⟩
    rw [hx] at h; exact h.imp_right fun h => h.imp_right nofun
  | park hy' =>
    subst hy'
    refine ⟨Nat.le_refl _, fun o' h => ?_⟩
    rcases h with h | h | h
    · rcases List.mem_append.mp h with h | h
      · exact old (live_of_idle h)
      · cases List.mem_singleton.mp h
        exact .inl ⟨_, live_of_op (List.mem_of_getElem? hy) rfl, rfl, rfl, rfl, rfl, rfl⟩
    · exact old (live_of_out h)
    · cases h
  | @drain _ dr _ _ _ hx _ _ _ hi _ =>
    refine ⟨Nat.le_refl _, fun o' h => old ?_⟩
    rw [hx] at h
    rcases h with h | h | h
    · exact live_of_idle (hi ▸ List.mem_append_right dr h)
    · exact live_of_out h
    · cases h
  | @retain keep _ =>
    refine ⟨Nat.le_refl _, fun o' h => old ?_⟩
    rcases h with h | h | h
    · exact live_of_idle ((retainKept_sublist keep 0 s.idle).subset h)
    · exact live_of_out h
    · cases h

theorem MetLog.eff {s s' : State} {i : Nat} {y : Op} {oc : Outcome} (m : MetLog s) (v : ObjInv s)
    (c' : Conserve s') (hy : s.ops[i]? = some y) (e : Eff s s' i y oc) : MetLog s' := by
  obtain ⟨x, es, idle, out, n, a, mv⟩ := e
  obtain hno | ⟨o, ob, hh, kind, rfl, rfl, rfl, rfl, rfl⟩ := mv.noHo_or_out
  · obtain ⟨h2, h3⟩ := mv.live hy hno
    refine m.of_noHo es a.log hno (a.nextId ▸ h2) fun o' ho' => ?_
    rw [mem_live_iff, a.idle, a.out, a.ops] at ho'
    rcases ho' with h | h | ⟨op, hop, hh⟩
    · exact h3 o' (.inl h)
    · exact h3 o' (.inr (.inl h))
    · rcases List.mem_or_eq_of_mem_set hop with h | rfl
      · exact .inl ⟨o', live_of_op h hh, metEq_refl _⟩
      · exact h3 o' (.inr (.inr hh))
  · refine m.out (live_of_op (List.mem_of_getElem? hy) hh)
      (Op.held_timeOK hh (v.ops y (List.mem_of_getElem? hy))) rfl ?_
      a c'
    obtain ⟨_, _, _, -, -, -, rfl⟩ | ⟨_, _, _, -, -, -, rfl⟩ | ⟨_, -, -, -, rfl⟩ := kind
    · exact ⟨rfl, rfl, rfl, .inr rfl⟩
    · exact ⟨rfl, rfl, rfl, .inl rfl⟩
    · exact ⟨rfl, rfl, rfl, .inl rfl⟩

theorem MetLog.start {s : State} {x : Op} (m : MetLog s)
    (hm : ∀ o, x.held = some o → o ∈ s.out) : MetLog (s.start x) := by
  refine m.of_noHo [] (List.append_nil _).symm nofun (Nat.le_refl _)
    fun o' ho' => .inl ⟨o', ?_, metEq_refl _⟩
  rcases mem_live_iff.mp ho' with h | h | ⟨op, hop, hh⟩
  · exact live_of_idle h
  · exact live_of_out ((s.start_out_sublist x).subset h)
  · rcases List.mem_append.mp hop with h' | h'
    · exact live_of_op h' hh
    · cases List.mem_singleton.mp h'
      exact live_of_out (hm o' hh)

theorem MetLog.tick {s : State} (m : MetLog s) : MetLog s.tick :=
  ⟨m.live, m.idx, m.created, m.mono, m.ids⟩

theorem MetLog.step {s s' : State} {act : Action} (m : MetLog s) (v : ObjInv s) (c : Conserve s)
    (hs : step s act = some s') : MetLog s' := by
  cases step_cases hs with
  | start _ _ hm => exact (m.start hm).tick
  | op _ _ hy f => exact (m.eff v (c.eff hy (f.eff hy)) hy (f.eff hy)).tick

theorem run_metlog (cfg : Cfg) (acts : List Action) : MetLog (run (init cfg) acts) :=
  (run_induction (P := fun s => MetLog s ∧ ObjInv s ∧ Conserve s) acts
    ⟨MetLog.init cfg, ObjInv.init cfg, Conserve.init cfg⟩
    fun _ _ _ ⟨m, v, c⟩ h => ⟨MetLog.step m v c h, ObjInv.step v h, Conserve.step c h⟩).1

end DeadpoolVerif
