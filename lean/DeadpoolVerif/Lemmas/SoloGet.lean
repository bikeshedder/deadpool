/-
A get() that runs alone (no other operation takes a step meanwhile), from an arbitrary state:
the relational invariant `SemRel` says how the semaphore differs from the initial one depending
on what the operation holds, `SoloRel` / `SoloAt` how the state does, step by step.  A call
that ends without handing out an object leaves the semaphore exactly as it found it.
-/
import DeadpoolVerif.Lemmas.GetStep

namespace DeadpoolVerif

/-- relation between the semaphore before the call (`s0`) and now (`s`) -/
def SemRel (s0 s : Sem) (i : Nat) : Hold → Prop
  | .nothing => s = s0
  | .permit => s = { s0 with permits := s0.permits - 1 } ∧ 0 < s0.permits
  | .queued => s = { s0 with queue := s0.queue ++ [i] } ∧ s0.permits = 0 ∧ s0.closed = false

theorem SemRel.tryAcquire {s0 s' : Sem} {i : Nat} {r : TryRes} (h : s0.tryAcquire = (s', r)) :
    (r = .ok → SemRel s0 s' i .permit) ∧ (r ≠ .ok → s' = s0) := by
  unfold Sem.tryAcquire at h
  repeat' split at h
  all_goals cases h
  · exact ⟨nofun, fun _ => rfl⟩
  · exact ⟨nofun, fun _ => rfl⟩
  · exact ⟨fun _ => ⟨rfl, by omega⟩, fun hr => absurd rfl hr⟩

/-- first poll, from a state in which `i` is not a registered waiter -/
theorem SemRel.pollFresh {s0 s' : Sem} {i : Nat} {r : PollRes} (w : s0.WF) (hi : i ∉ s0.waiting)
    (h : s0.pollAcquire i = (s', r)) : SemRel s0 s' i r.hold := by
  simp only [Sem.waiting, List.mem_append, not_or] at hi
  unfold Sem.pollAcquire at h
  simp only [hi.2, if_false, hi.1] at h
  repeat' split at h
  all_goals (simp only [Prod.mk.injEq] at h; obtain ⟨rfl, rfl⟩ := h)
  · show _ = s0
    rw [List.erase_of_not_mem hi.1]
  · rename_i hc hp
    exact ⟨rfl, hp, by simpa using hc⟩
  · have hq : s0.queue = [] := w.free (by omega)
    exact ⟨by simp [hq], by omega⟩

/-- a re-poll while queued, nobody else having moved, stays pending -/
theorem SemRel.pollQueued {s0 s s' : Sem} {i : Nat} {r : PollRes} (hi : i ∉ s0.waiting)
    (rel : SemRel s0 s i .queued) (h : s.pollAcquire i = (s', r)) : r = .pending ∧ s' = s := by
  obtain ⟨hs, hp, hc⟩ := rel
  simp only [Sem.waiting, List.mem_append, not_or] at hi
  have f1 : s.closed = false := by rw [hs]; exact hc
  have f2 : i ∉ s.assigned := by rw [hs]; exact hi.2
  have f3 : s.permits = 0 := by rw [hs]; exact hp
  have f4 : i ∈ s.queue := by rw [hs]; simp
  unfold Sem.pollAcquire at h
  simp only [f1, Bool.false_eq_true, if_false, f2, f3, if_true, f4] at h
  simp only [Prod.mk.injEq] at h
  exact ⟨h.2.symm, h.1.symm⟩

theorem SemRel.dropQueued {s0 s : Sem} {i : Nat} (hi : i ∉ s0.waiting)
    (rel : SemRel s0 s i .queued) : s.dropAcquire i = s0 := by
  obtain ⟨rfl, _, _⟩ := rel
  simp only [Sem.waiting, List.mem_append, not_or] at hi
  unfold Sem.dropAcquire
  simp only [hi.2, if_false, List.erase_append_right _ hi.1, List.erase_cons_head, List.append_nil]

theorem SemRel.release {s0 s : Sem} {i : Nat} (w : s0.WF) (rel : SemRel s0 s i .permit) :
    s.addPermits 1 = s0 := by
  obtain ⟨rfl, hp⟩ := rel
  have hq : s0.queue = [] := w.free hp
  unfold Sem.addPermits
  simp only [hq, List.length_nil, Nat.min_zero, List.drop_nil, List.take_nil, List.append_nil]
  have : s0.permits - 1 + 1 = s0.permits := by omega
  rw [this]
  cases s0
  simp_all

/-- `SemRel` follows the semaphore calls of the get() it describes -/
theorem SemRel.step {s0 a b : Sem} {i : Nat} {h h' : Hold} (w : s0.WF) (hi : i ∉ s0.waiting)
    (rel : SemRel s0 a i h) (c : SemCall i a h h' b) : SemRel s0 b i h' := by
  cases c with
  | none => exact rel
  | tryOk hp => cases rel; exact (SemRel.tryAcquire hp).1 rfl
  | @poll h _ r hh hp =>
    cases h with
    | permit => exact absurd rfl hh
    | nothing =>
      cases rel
      exact SemRel.pollFresh w hi hp
    | queued =>
      obtain ⟨rfl, rfl⟩ := SemRel.pollQueued hi rel hp
      exact rel
  | drop => exact SemRel.dropQueued hi rel
  | pollDrop hp => rw [(SemRel.pollQueued hi rel hp).2]; exact SemRel.dropQueued hi rel
  | release => exact SemRel.release w rel

/-- how the current state `s` differs from the state `s0` before the call while the (only)
running get `i` is at `x`; with `x = .done` the call is over and left nothing behind but the
idle objects it discarded.  `users` and `size` are not recorded: `Acct` determines them from
`ops`, `out` and `idle`. -/
structure SoloRel (s0 s : State) (i : Nat) (x : Op) : Prop where
  ops : s.ops = s0.ops ++ [x]
  sem : SemRel s0.sem s.sem i x.hold
  out : s.out = s0.out
  frame : GetFrame s0 s

theorem SoloRel.sumW_done {s0 s : State} {i : Nat} (d : SoloRel s0 s i .done) (f : Op → Nat)
    (hf : f .done = 0) : sumW f s.ops = sumW f s0.ops := by
  rw [d.ops, sumW_append, sumW_cons, hf]
  rfl

/-- where a get() running alone can be after some steps -/
inductive SoloAt (s0 s : State) (i : Nat) (t : Timeouts) : Prop
  | running (pc : GPc) (r : SoloRel s0 s i (.get t pc))
  | done (d : SoloRel s0 s i .done)
  | handedOut (o : Obj) (h : s.out = s0.out ++ [o]) (hd : s.ops = s0.ops ++ [.done])

/-- one step of the get() running alone; once it is over no step of it is enabled -/
theorem solo_step {s0 s s' : State} {t : Timeouts} {oc : Outcome}
    (w0 : s0.sem.WF) (hi : s0.ops.length ∉ s0.sem.waiting)
    (at_ : SoloAt s0 s s0.ops.length t) (hs : step s (.step s0.ops.length oc) = some s') :
    SoloAt s0 s' s0.ops.length t := by
  cases step_cases hs with | op y s1 hy f =>
  cases at_ with
  | done d => rw [d.ops, List.getElem?_concat_length] at hy; cases hy; cases f
  | handedOut o _ hd => rw [hd, List.getElem?_concat_length] at hy; cases hy; cases f
  | running pc r =>
    rw [r.ops, List.getElem?_concat_length] at hy
    cases hy
    cases f with | get hs =>
    obtain ⟨fr, x, es, idle, out, n, a, st, h'⟩ := stepGet_spec hs
    have hx := a.ops
    rw [r.ops, List.set_append_right _ _ (Nat.le_refl _), Nat.sub_self] at hx
    rcases h' with ⟨rfl, -, -, o, rfl⟩ | ⟨rfl, c⟩
    · exact .handedOut o (r.out ▸ a.out) hx
    · have r' : SoloRel s0 s1.tick s0.ops.length x :=
        ⟨hx, r.sem.step w0 hi c, a.out.trans r.out, (r.frame.trans fr).trans (.tick _ _)⟩
      rcases st.next with rfl | ⟨pc', rfl⟩
      · exact .done r'
      · exact .running pc' r'

end DeadpoolVerif
