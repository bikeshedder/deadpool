/-
The statement cache as an association list (`erase` is `eraseP`, `lookup` is `find?`, `insert`
and `remove` are map updates), its well-formedness, and the registry.
-/
import DeadpoolVerif.Model.PgPool
import DeadpoolVerif.Lemmas.Conserve

namespace DeadpoolVerif
namespace PgP

abbrev keys (l : List (Key × Stmt)) : List Key := l.map (·.1)

@[simp] theorem lookup_nil (k : Key) : lookup k [] = none := rfl
@[simp] theorem lookup_cons (k : Key) (e : Key × Stmt) (l : List (Key × Stmt)) :
    lookup k (e :: l) = if e.1 = k then some e.2 else lookup k l := rfl

theorem lookup_eq_find? (k : Key) (l : List (Key × Stmt)) :
    lookup k l = (l.find? (·.1 = k)).map (·.2) := by
  induction l with
  | nil => rfl
  | cons e l ih => by_cases h : e.1 = k <;> simp [h, ih]

theorem erase_eq_eraseP (k : Key) (l : List (Key × Stmt)) : erase k l = l.eraseP (·.1 = k) := by
  induction l with
  | nil => rfl
  | cons e l ih => by_cases h : e.1 = k <;> simp [erase, h, ih]

theorem lookup_isSome_iff (k : Key) (l : List (Key × Stmt)) : (lookup k l).isSome ↔ k ∈ keys l := by
  simp only [lookup_eq_find?, Option.isSome_map, List.find?_isSome, List.mem_map, decide_eq_true_eq]

theorem lookup_none_iff (k : Key) (l : List (Key × Stmt)) : lookup k l = none ↔ k ∉ keys l := by
  rw [← lookup_isSome_iff]; simp

theorem lookup_mem (k : Key) (l : List (Key × Stmt)) (st : Stmt) (h : lookup k l = some st) :
    (k, st) ∈ l := by
  simp only [lookup_eq_find?, Option.map_eq_some_iff] at h
  obtain ⟨e, he, rfl⟩ := h
  have := List.find?_some he
  simp only [decide_eq_true_eq] at this
  exact this ▸ List.mem_of_find?_eq_some he

theorem lookup_append (k : Key) (l₁ l₂ : List (Key × Stmt)) :
    lookup k (l₁ ++ l₂) = (lookup k l₁).or (lookup k l₂) := by
  simp only [lookup_eq_find?, List.find?_append, Option.map_or]

theorem replace_keys (k : Key) (st : Stmt) (l : List (Key × Stmt)) : keys (replace k st l) = keys l := by
  induction l with
  | nil => rfl
  | cons e rest ih => by_cases h : e.1 = k <;> simp_all [replace]

theorem mem_replace (k : Key) (st : Stmt) (l : List (Key × Stmt)) (e : Key × Stmt)
    (he : e ∈ replace k st l) : e = (k, st) ∨ e ∈ l := by
  fun_induction replace k st l with
  | case1 => cases he
  | case2 x rest _ => exact (List.mem_cons.mp he).imp_right (List.mem_cons_of_mem _)
  | case3 x rest _ ih =>
    rcases List.mem_cons.mp he with rfl | he
    · exact .inr List.mem_cons_self
    · exact (ih he).imp_right (List.mem_cons_of_mem _)

theorem lookup_replace (k k' : Key) (st : Stmt) (l : List (Key × Stmt)) :
    lookup k' (replace k st l) = if k' = k then (lookup k l).map fun _ => st else lookup k' l := by
  induction l with
  | nil => simp [replace]
  | cons e rest ih =>
    by_cases hk : e.1 = k <;> by_cases hk' : k' = k <;> simp_all [replace, eq_comm]

theorem lookup_replace_self (k : Key) (st : Stmt) (l : List (Key × Stmt)) (h : (lookup k l).isSome) :
    lookup k (replace k st l) = some st := by
  obtain ⟨x, hx⟩ := Option.isSome_iff_exists.mp h
  simp [lookup_replace, hx]

theorem lookup_erase (k k' : Key) (l : List (Key × Stmt)) (h : (keys l).Nodup) :
    lookup k' (erase k l) = if k' = k then none else lookup k' l := by
  induction l with
  | nil => simp [erase]
  | cons e rest ih =>
    simp only [List.map_cons, List.nodup_cons] at h
    by_cases hk : e.1 = k
    · subst hk
      simp only [erase, if_true]
      by_cases hk' : k' = e.1
      · rw [if_pos hk', hk', (lookup_none_iff _ _).mpr h.1]
      · rw [if_neg hk', lookup_cons, if_neg (Ne.symm hk')]
    · simp only [erase, if_neg hk, lookup_cons, ih h.2]
      by_cases hk' : k' = k
      · subst hk'; simp [hk]
      · simp [hk']

theorem erase_length (k : Key) (l : List (Key × Stmt)) (h : (lookup k l).isSome) :
    (erase k l).length + 1 = l.length := by
  obtain ⟨e, he, hk⟩ := List.mem_map.mp ((lookup_isSome_iff k l).mp h)
  rw [erase_eq_eraseP, List.length_eraseP_of_mem he (decide_eq_true hk)]
  have := List.length_pos_of_mem he
  omega

/-- `insert` is a map update -/
theorem Cache.get_insert (c : Cache) (k k' : Key) (st : Stmt) :
    (c.insert k st).get k' = if k' = k then some st else c.get k' := by
  unfold Cache.insert
  split
  · rename_i h
    obtain ⟨x, hx⟩ := Option.isSome_iff_exists.mp h
    simp only [Cache.get] at hx ⊢
    rw [lookup_replace, hx]; rfl
  · rename_i h
    simp only [Cache.get, lookup_append] at h ⊢
    by_cases hk : k' = k
    · subst hk; simp [Option.not_isSome_iff_eq_none.mp h]
    · simp [hk, Ne.symm hk]

/-- `size` counts the entries, no key is cached twice, every statement was prepared on this
connection for its own key -/
structure WF (c : Cache) : Prop where
  size : c.size = c.map.length
  nodup : (c.map.map (·.1)).Nodup
  own : ∀ e ∈ c.map, e.2.key = e.1 ∧ e.2.conn = c.conn

theorem WF.new (conn : Nat) : WF { conn := conn } := ⟨rfl, by simp, by simp⟩

theorem WF.insert {c : Cache} (h : WF c) (k : Key) (st : Stmt) (hk : st.key = k) (hc : st.conn = c.conn) :
    WF (c.insert k st) := by
  unfold Cache.insert
  split
  · refine ⟨?_, ?_, fun e he => ?_⟩
    · have := congrArg List.length (replace_keys k st c.map)
      simp only [List.length_map] at this
      exact h.size.trans this.symm
    · show (keys (replace k st c.map)).Nodup
      rw [replace_keys]; exact h.nodup
    · rcases mem_replace k st c.map e he with rfl | he
      · exact ⟨hk, hc⟩
      · exact h.own e he
  · have hnot : k ∉ keys c.map := by rwa [← lookup_isSome_iff]
    refine ⟨by simp [h.size], ?_, forall_mem_append_single h.own ⟨hk, hc⟩⟩
    · simp only [List.map_append, List.map_cons, List.map_nil, List.nodup_append, List.mem_singleton]
      exact ⟨h.nodup, by simp, fun a ha b hb e => hnot (hb ▸ e ▸ ha)⟩

theorem WF.remove {c : Cache} (h : WF c) (k : Key) : WF (c.remove k) := by
  unfold Cache.remove
  split
  · rename_i hsome
    have sub : (erase k c.map).Sublist c.map := erase_eq_eraseP k _ ▸ List.eraseP_sublist
    refine ⟨?_, h.nodup.sublist (sub.map _), fun e he => h.own e (sub.subset he)⟩
    have := erase_length k c.map hsome
    show c.size - 1 = (erase k c.map).length
    rw [h.size]; omega
  · exact h

/-- `remove` is a map update (no key is cached twice) -/
theorem WF.get_remove {c : Cache} (h : WF c) (k k' : Key) :
    (c.remove k).get k' = if k' = k then none else c.get k' := by
  unfold Cache.remove
  split
  · exact lookup_erase k k' c.map h.nodup
  · rename_i hn
    split
    · subst_vars; exact Option.not_isSome_iff_eq_none.mp hn
    · rfl

theorem WF.clear {c : Cache} : WF c.clear := ⟨rfl, by simp [Cache.clear], by simp [Cache.clear]⟩

theorem WF.apply {c : Cache} (h : WF c) (op : COp) : WF (c.apply op) := by
  cases op with
  | insert k n => exact h.insert k _ rfl rfl
  | remove k => exact h.remove k
  | clear => exact WF.clear

theorem WF.run {c : Cache} (h : WF c) (ops : List COp) : WF (ops.foldl Cache.apply c) :=
  List.foldlRecOn ops Cache.apply h fun _ h op _ => h.apply op

theorem registered_iff (s : State) (id : Nat) :
    registered s id = true ↔ id < s.nextId ∧ detachCnt id s.log = 0 := by
  unfold registered
  rw [detachCnt, sumW_eq_zero_iff, Bool.and_eq_true, decide_eq_true_eq, Bool.not_eq_true',
    List.any_eq_false]
  refine and_congr_right fun _ => forall_congr' fun e => imp_congr_right fun _ => ?_
  cases e <;> simp [Ev.detachIds, eqInd]

end PgP
end DeadpoolVerif
