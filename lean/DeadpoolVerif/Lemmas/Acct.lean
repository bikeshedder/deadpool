/-
Ghost weights of operations, by program counter (DESIGN.md Appendix A), and the accounting
invariant `Acct`, preserved by every transition of the managed pool model, hence true in every
reachable state (any number of operations, any schedule, any environment outcomes, resize and
close included).

A step replaces one operation by another and moves a few counters, so only the weights of
that operation and the counters matter: `AcctAt` is `Acct` with the contribution of the other
operations as variables, `Acct.update` reduces preservation to it, and every leaf of the step
functions is then linear arithmetic over a handful of atoms.  `State.status_eq` says what
`status()` reports of these counters.
-/
import DeadpoolVerif.Lemmas.Sem
import DeadpoolVerif.Lemmas.Step
import DeadpoolVerif.Lemmas.Queue

namespace DeadpoolVerif

/-- the op holds a capacity token -/
def GPc.permW : GPc → Nat
  | .enter | .acquire | .queued | .dropUsers _ => 0
  | _ => 1

/-- the op has an object of the pool in hand, or is creating one -/
def GPc.objW : GPc → Nat
  | .recycling .. | .creating _ | .createSize _ | .postCreate .. | .unreadyLock ..
  | .unreadyDetach .. => 1
  | _ => 0

/-- the object in hand is counted in `size` -/
def GPc.sizeW : GPc → Nat
  | .recycling .. | .postCreate .. | .unreadyLock .. => 1
  | _ => 0

/-- the op is counted in `users` -/
def GPc.usersW : GPc → Nat
  | .enter => 0
  | _ => 1

def Op.permW : Op → Nat
  | .get _ pc => pc.permW
  | .ret .users _ | .ret .lock _ | .ret .addPermits _ => 1
  | .take .users .. | .take .lock .. | .take .addPermits .. => 1
  | .resize n _ .grow old => n - old
  | _ => 0

def Op.objW : Op → Nat
  | .get _ pc => pc.objW
  | .ret .users _ | .ret .lock _ => 1
  | .take .users .. | .take .lock .. => 1
  | _ => 0

def Op.sizeW : Op → Nat
  | .get _ pc => pc.sizeW
  | .ret .users _ | .ret .lock _ => 1
  | .take .users .. | .take .lock .. => 1
  | _ => 0

def Op.usersW : Op → Nat
  | .get _ pc => pc.usersW
  | .ret .users _ => 1
  | .take .users .. => 1
  | _ => 0

theorem Op.sizeW_le_objW (op : Op) : op.sizeW ≤ op.objW := by
  cases op with
  | get t pc => cases pc <;> simp [Op.sizeW, Op.objW, GPc.sizeW, GPc.objW]
  | ret pc o | take pc o a => cases pc <;> simp [Op.sizeW, Op.objW]
  | _ => simp [Op.sizeW, Op.objW]

theorem Op.objW_le_permW (op : Op) : op.objW ≤ op.permW := by
  cases op with
  | get t pc => cases pc <;> simp [Op.permW, Op.objW, GPc.permW, GPc.objW]
  | ret pc o | take pc o a => cases pc <;> simp [Op.permW, Op.objW]
  | _ => simp [Op.objW]

/-- The accounting invariant (I1, I2, I4 of DESIGN.md and "no counter wrapped"). -/
structure Acct (s : State) : Prop where
  /-- I1 token conservation -/
  tok : s.sem.tokens + sumW Op.permW s.ops + s.out.length = s.maxSize + s.debt
  /-- I2 `size` counts the objects that exist and are registered -/
  siz : s.size = s.idle.length + s.out.length + sumW Op.sizeW s.ops
  /-- I2 `users` counts callers inside get() and live `Object`s -/
  usr : s.users = s.out.length + sumW Op.usersW s.ops
  /-- I4 every idle object and every object in hand is backed by a token -/
  cov : s.idle.length + sumW Op.objW s.ops ≤ s.sem.tokens + sumW Op.permW s.ops
  /-- no checked subtraction ever failed -/
  nf : s.fault = none

theorem Acct.init (cfg : Cfg) : Acct (init cfg) := by
  constructor <;> simp [DeadpoolVerif.init, Sem.new, Sem.tokens]

theorem decFault_none_iff {x k : Nat} : decFault none x k = none ↔ k ≤ x := by
  simp only [decFault]; split <;> simp <;> omega

/-- `Acct` with the weights of one operation split off from the sums over the others
(`P O Z U`); the fault flag is left out. -/
def AcctAt (s : State) (op : Op) (P O Z U : Nat) : Prop :=
  s.sem.tokens + (op.permW + P) + s.out.length = s.maxSize + s.debt ∧
  s.size = s.idle.length + s.out.length + (op.sizeW + Z) ∧
  s.users = s.out.length + (op.usersW + U) ∧
  s.idle.length + (op.objW + O) ≤ s.sem.tokens + (op.permW + P)

/-- The general transition lemma: operation `i` is replaced by `x`.  Whatever the other
operations contribute (`P O Z U`), it is enough to look at the counters and at the weights of `y`
and `x`; of the others only `Z ≤ O ≤ P` is known (an object counted in `size` is in hand, an
object in hand is backed by a token), which the leaves that subtract need. -/
theorem Acct.update {s s' : State} {i : Nat} {x y : Op} (a : Acct s) (h : s.ops[i]? = some y)
    (hops : s'.ops = s.ops.set i x)
    (hl : ∀ P O Z U, O ≤ P → Z ≤ O → AcctAt s y P O Z U → s.fault = none →
      AcctAt s' x P O Z U ∧ s'.fault = none) : Acct s' := by
  have hOP := sumW_le Op.objW Op.permW (s.ops.eraseIdx i) Op.objW_le_permW
  have hZO := sumW_le Op.sizeW Op.objW (s.ops.eraseIdx i) Op.sizeW_le_objW
  obtain ⟨a1, a2, a3, a4, a5⟩ := a
  simp only [sumW_eraseIdx _ h] at a1 a2 a3 a4
  obtain ⟨⟨b1, b2, b3, b4⟩, b5⟩ := hl _ _ _ _ hOP hZO ⟨a1, a2, a3, a4⟩ a5
  refine ⟨?_, ?_, ?_, ?_, b5⟩ <;> simp only [hops, sumW_set_eq _ _ h] <;> assumption

/-- a new operation is appended: as if it replaced a weightless `.done` -/
theorem Acct.append {s s' : State} {x : Op} (a : Acct s) (hops : s'.ops = s.ops ++ [x])
    (hl : ∀ P O Z U, AcctAt s .done P O Z U → AcctAt s' x P O Z U) (hf : s'.fault = s.fault) :
    Acct s' := by
  obtain ⟨a1, a2, a3, a4, a5⟩ := a
  obtain ⟨b1, b2, b3, b4⟩ := hl _ _ _ _ ⟨by simpa [Op.permW] using a1, by simpa [Op.sizeW] using a2,
    by simpa [Op.usersW] using a3, by simpa [Op.objW, Op.permW] using a4⟩
  refine ⟨?_, ?_, ?_, ?_, hf.trans a5⟩ <;>
    simp only [hops, sumW_append, sumW_cons, sumW_nil] <;> omega

/-- objects that exist or are being created never exceed `max_size` plus the capacity a shrink
could not collect; every bound of C01 / C07 / C11 is this one with `debt = 0` -/
theorem Acct.live_le {s : State} (a : Acct s) :
    s.idle.length + s.out.length + sumW Op.objW s.ops ≤ s.maxSize + s.debt := by
  have := a.tok
  have := a.cov
  omega

theorem Acct.size_le {s : State} (a : Acct s) : s.size ≤ s.maxSize + s.debt := by
  have := a.live_le
  have := a.siz
  have := sumW_le Op.sizeW Op.objW s.ops Op.sizeW_le_objW
  omega

/-- `status()` without the case distinction: the two differences are truncated -/
theorem State.status_eq (s : State) :
    s.status = (s.maxSize, s.size, s.size - s.users, s.users - s.size) := by
  unfold State.status
  split <;> rename_i h
  · rw [Nat.sub_eq_zero_of_le (Nat.le_of_lt h)]
  · rw [Nat.sub_eq_zero_of_le (Nat.le_of_not_lt h)]

/-- the length equation of whichever pop the branch at hand made -/
macro "pop_facts" : tactic => `(tactic| (
  try have hsome := length_of_popIdle_some ‹popIdle _ _ = some _›
  try have hnone := length_of_popIdle_none ‹popIdle _ _ = none›
  try (have hidle := congrArg List.length ‹State.idle _ = _›
       simp only [List.length_cons, List.length_nil] at hidle)))

/-- one leaf of a step function: `Acct.update` for the operation found at `h`, the weights
and the record updates unfolded, linear arithmetic (a leaf that moves no counter has the
hypotheses as its goal) -/
macro "acct_leaf" a:ident h:ident hops:term : tactic => `(tactic| (
  refine Acct.update $a $h $hops fun P O Z U hOP hZO ⟨a1, a2, a3, a4⟩ a5 => ?_
  simp (disch := assumption) only [AcctAt, State.setOp, State.emit, arriveRecycle, handOut, failPermit,
    finishResize, Op.permW, Op.objW, Op.sizeW, Op.usersW, GPc.permW, GPc.objW, GPc.sizeW, GPc.usersW,
    List.length_append, List.length_cons, List.length_nil, Sem.addPermits_tokens,
    Sem.dropAcquire_tokens, Sem.close_tokens, Sem.tryAcquire_tokens, Sem.pollAcquire_tokens, TryRes.took,
    PollRes.took, a5, decFault_none_iff, and_true] at a1 a2 a3 a4 ⊢
  first | exact ⟨a1, a2, a3, a4⟩ | omega))

theorem stepGet_acct {s s' : State} {i : Nat} {t : Timeouts} {pc : GPc} {oc : Outcome}
    (h : s.ops[i]? = some (.get t pc)) (a : Acct s)
    (hs : stepGet s i t pc oc = some s') : Acct s' := by
  leaves [stepGet, arrivePostCreate] at hs
  all_goals pop_facts
  all_goals acct_leaf a h rfl

theorem stepTake_acct {s s' : State} {i : Nat} {pc : TPc} {o : Obj} {add : Bool}
    (h : s.ops[i]? = some (.take pc o add)) (a : Acct s)
    (hs : stepTake s i pc o add = some s') : Acct s' := by
  cases pc <;> simp only [stepTake] at hs
  case lock =>
    split at hs <;> cases hs
    -- the model binds `let add := decide (size ≤ max_size)`, which `split` does not see
    by_cases hle : s.size ≤ s.maxSize <;> simp only [hle, decide_true, decide_false, ↓reduceIte,
      Bool.false_eq_true] <;> acct_leaf a h rfl
  all_goals cases hs
  all_goals acct_leaf a h rfl

theorem stepResize_acct {s s' : State} {i n old : Nat} {isClose : Bool} {pc : ZPc}
    (h : s.ops[i]? = some (.resize n isClose pc old)) (a : Acct s)
    (hs : stepResize s i n isClose pc old = some s') : Acct s' := by
  leaves [stepResize] at hs
  all_goals pop_facts
  -- a shrink iteration that forgets a permit leaves the operation where it is
  all_goals first | acct_leaf a h rfl | acct_leaf a h (set_self h).symm

/-- a new operation weighs nothing, except that a return or a take carries the object it came
with: one unit in every sum, one entry less in `out` -/
theorem Acct.start {s : State} {sp : Spec} {x : Op} (a : Acct s) (hi : Op.init sp x)
    (hm : ∀ o, x.held = some o → o ∈ s.out) : Acct (s.start x) := by
  refine a.append rfl (fun P O Z U ⟨a1, a2, a3, a4⟩ => ?_) rfl
  cases sp
  case ret | take =>
    obtain ⟨o, -, rfl⟩ := hi
    have e1 := length_erase_add_one (hm o rfl)
    simp only [AcctAt, State.start, Op.held, Op.permW, Op.objW, Op.sizeW, Op.usersW] at a1 a2 a3 a4 ⊢
    omega
  all_goals cases hi; exact ⟨a1, a2, a3, a4⟩

theorem Acct.tick {s : State} (a : Acct s) : Acct s.tick := ⟨a.tok, a.siz, a.usr, a.cov, a.nf⟩

theorem Acct.step {s s' : State} {act : Action} (a : Acct s) (hs : step s act = some s') :
    Acct s' := by
  cases step_cases hs with
  | start _ hi hm => exact (a.start hi hm).tick
  | op _ _ h f =>
    refine Acct.tick ?_
    cases f with
    | get hs => exact stepGet_acct h a hs
    | ret hs => leaves [stepRet] at hs; all_goals acct_leaf a h rfl
    | take hs => exact stepTake_acct h a hs
    | resize hs => exact stepResize_acct h a hs
    | @retain keep hs =>
      have rl := retain_length keep 0 s.idle
      leaves [stepRetain] at hs; acct_leaf a h rfl
    | status hs => leaves [stepStatus] at hs; acct_leaf a h rfl
    | retPanic hs | takePanic hs => cases hs; acct_leaf a h rfl

theorem run_acct (cfg : Cfg) (acts : List Action) : Acct (run (init cfg) acts) :=
  run_induction acts (Acct.init cfg) fun _ _ _ => Acct.step

end DeadpoolVerif
