/-
`Acct`, `Link` and `Conserve` bundled: they hold in every state reachable from `init cfg` and are
preserved along any further run.
-/
import DeadpoolVerif.Lemmas.Conserve
import DeadpoolVerif.Lemmas.Link

namespace DeadpoolVerif

structure Reach (s : State) : Prop where
  acct : Acct s
  link : Link s
  cons : Conserve s

theorem reach_run (cfg : Cfg) (acts : List Action) : Reach (run (init cfg) acts) :=
  ⟨run_acct cfg acts, run_link cfg acts, run_conserve cfg acts⟩

theorem Reach.step {s s' : State} {a : Action} (r : Reach s) (h : step s a = some s') : Reach s' :=
  ⟨Acct.step r.acct h, Link.step r.link h, Conserve.step r.cons h⟩

theorem Reach.run? {s s' : State} (r : Reach s) (as : List Action) (h : run? s as = some s') :
    Reach s' :=
  run_of_run? h ▸ run_induction as r fun _ _ _ r h => r.step h

end DeadpoolVerif
