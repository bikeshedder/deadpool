/-
The sequential drivers only ever produce runs of the pool model: whatever `soloWith` returns is
`run?` of the action list `soloActs`; under an environment that never answers `Manager::recycle`
with `ok` for a spoiled connection that list is `Honest`.
-/
import DeadpoolVerif.Model.SyncPools
import DeadpoolVerif.Lemmas.Step

namespace DeadpoolVerif
namespace Solo

theorem soloWith_run {σ : Type} (env : Env σ) (e : σ) (s : State) (i : Nat) (fuel : Nat) :
    run? s (soloActs env e s i fuel) = some (soloWith env e s i fuel).2 := by
  fun_induction soloWith env e s i fuel <;> simp only [soloActs, run?, Option.bind_some, *]

/-- `run` (which skips refused actions) agrees: none of `soloActs` is refused -/
theorem soloWith_run' {σ : Type} (env : Env σ) (e : σ) (s : State) (i : Nat) (fuel : Nat) :
    run s (soloActs env e s i fuel) = (soloWith env e s i fuel).2 :=
  run_of_run? (soloWith_run ..)

/-- an environment is honest w.r.t. `sp` when it answers `ok` at the `Manager::recycle`
callback only for connections that are not spoiled -/
def EnvHonest {σ : Type} (sp : SP.Spoiled) (env : Env σ) : Prop :=
  ∀ e s i e' o, env e s i = some (.ok, e') → atRecycle s i = some o → sp o.id o.handouts = false

theorem okAllowed_of_atRecycle (sp : SP.Spoiled) (s : State) (i : Nat)
    (h : ∀ o, atRecycle s i = some o → sp o.id o.handouts = false) :
    SP.okAllowed sp s (.step i .ok) = true := by
  unfold atRecycle at h
  simp only [SP.okAllowed]
  split
  · split
    · simp_all
    · rfl
  · rfl

theorem soloActs_honest {σ : Type} (sp : SP.Spoiled) (env : Env σ) (hh : EnvHonest sp env)
    (e : σ) (s : State) (i : Nat) (fuel : Nat) :
    SP.Honest sp s (soloActs env e s i fuel) := by
  fun_induction soloActs env e s i fuel with
  | case1 | case2 | case4 => trivial
  | case3 e s fuel oc e' he s' hs ih =>
    refine ⟨?_, by rw [hs]; exact ih⟩
    cases oc with
    | ok => exact okAllowed_of_atRecycle sp s i fun o => hh e s i e' o he
    | _ => rfl

/-- at the `Manager::recycle` callback the default answer is the caller's verdict -/
theorem defaultOutcome_atRecycle {v : Obj → Bool} {s : State} {i : Nat} {o : Obj}
    (h : atRecycle s i = some o) : defaultOutcome v s i = some (if v o then .ok else .err) := by
  unfold atRecycle at h
  unfold defaultOutcome
  split at h <;> simp_all

/-- **the sequential drivers are covered.**  Starting an operation and running it alone under an
honest environment is a run of the pool model along an honest history. -/
theorem soloOp_honest_run {σ : Type} {sp : SP.Spoiled} {env : Env σ} (hh : EnvHonest sp env)
    {e e' : σ} {s s' : State} {spec : Spec} {i fuel : Nat}
    (h : soloOp env e s spec fuel = some (e', s', i)) :
    ∃ acts, run? s acts = some s' ∧ SP.Honest sp s acts := by
  unfold soloOp at h
  split at h
  · rename_i s1 hst
    cases h
    refine ⟨.start spec :: soloActs env e s1 s.ops.length fuel, ?_, rfl, ?_⟩
    · simp only [run?, hst, Option.bind_some, soloWith_run]
    · rw [hst]; exact soloActs_honest sp env hh ..
  · cases h

/-- the environment of the C15 driver is honest for connections judged by their identity -/
theorem sp_env_honest (good : Nat → Bool) :
    EnvHonest (fun id _ => !good id) (SP.env fun o => good o.id) := by
  intro e s i e' o he ho
  simp only [SP.env, defaultOutcome_atRecycle ho, Option.map_some, Option.some.injEq, Prod.mk.injEq] at he
  cases hg : good o.id <;> simp_all

end Solo

end DeadpoolVerif
