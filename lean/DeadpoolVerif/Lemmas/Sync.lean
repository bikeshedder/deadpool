/-
Invariants of the SyncWrapper model.

The inductive invariant is `Good`: one predicate `TInv` per task (what the mutex and the history
say about that task), the three-state life cycle of the wrapper, and the history automaton being
in `phaseOf s`.  A step touches one task; all other tasks are carried over by `TInv.frame`.
`SInv` is the same information spelled out clause by clause, read off `Good` once.
-/
import DeadpoolVerif.Model.Sync
import DeadpoolVerif.Lemmas.ListAt

namespace DeadpoolVerif
namespace Sy

def phaseOf (s : State) : Phase :=
  if s.value then (match s.lock with | some i => .inClosure i | none => .idle) else .gone

/-- what the C14 theorems read off a reachable state, clause by clause (derived from `Good`) -/
structure SInv (s : State) : Prop where
  /-- the mutex is held exactly by the task that is in its closure -/
  lockRunning : ∀ (i : Nat), s.lock = some i ↔ ∃ t : Task, s.tasks[i]? = some t ∧ t.pc = .running
  lockValue : s.lock.isSome → s.value = true
  aliveValue : s.alive = true → s.value = true ∧ s.dropPending = false
  deadPending : s.alive = false → s.dropPending = true ∨ s.value = false
  pendingValue : s.dropPending = true → s.value = true ∧ s.alive = false
  destroyedCount : s.destroyed = if s.value then 0 else 1
  deadNoFutures : s.alive = false → noFutures s = true
  delivered : ∀ (i : Nat) (t : Task) (r : Res), s.tasks[i]? = some t → t.delivered = some r → t.pc = .done r
  notAborted : ∀ (i : Nat) (t : Task), s.tasks[i]? = some t → t.pc ≠ .done .aborted
  doneOk : ∀ (i : Nat) (t : Task), s.tasks[i]? = some t → t.pc = .done .ok → t.beh = .ok ∧ Ev.finish i false ∈ s.log
  finished : ∀ (i : Nat) (p : Bool), Ev.finish i p ∈ s.log →
    ∃ t : Task, s.tasks[i]? = some t ∧ t.pc = .done (if p then .panic else .ok)
  panicked : (∃ i, Ev.finish i true ∈ s.log) → s.poisoned = true
  poisonedWhy : s.poisoned = true → ∃ i, Ev.finish i true ∈ s.log
  scanned : ∃ es, s.log = .create .blocking :: es ∧ scan .idle es = some (phaseOf s)

theorem phaseOf_eq_gone {s : State} : phaseOf s = .gone ↔ s.value = false := by
  cases hv : s.value <;> cases hl : s.lock <;> simp [phaseOf, hv, hl]

theorem phaseOf_eq_inClosure {s : State} {i : Nat} : phaseOf s = .inClosure i ↔ s.value = true ∧ s.lock = some i := by
  cases hv : s.value <;> cases hl : s.lock <;> simp [phaseOf, hv, hl]

theorem scan_append (p : Phase) (xs ys : List Ev) :
    scan p (xs ++ ys) = (scan p xs).bind fun q => scan q ys := by
  induction xs generalizing p with
  | nil => rfl
  | cons x xs ih =>
    simp only [List.cons_append, scan]
    cases p.next x with
    | none => rfl
    | some p' => exact ih p'

theorem goodLog_eq_some {l : List Ev} {p : Phase} :
    goodLog l = some p ↔ ∃ es, l = .create .blocking :: es ∧ scan .idle es = some p := by
  unfold goodLog
  split <;> simp_all

theorem goodLog_append {l : List Ev} {p q : Phase} (e : Ev) (h : goodLog l = some p)
    (hn : p.next e = some q) : goodLog (l ++ [e]) = some q := by
  obtain ⟨es, rfl, hs⟩ := goodLog_eq_some.mp h
  simp [goodLog, scan_append, hs, scan, hn]

/-- an event other than the construction, somewhere in a good history: the automaton takes it -/
theorem goodLog_split {pre post : List Ev} {e : Ev} {q : Phase} (h : goodLog (pre ++ e :: post) = some q)
    (he : ∀ t, e ≠ .create t) : ∃ p1 p2 : Phase, p1.next e = some p2 ∧ scan p2 post = some q := by
  obtain ⟨es, hl, hs⟩ := goodLog_eq_some.mp h
  cases pre with
  | nil => cases hl; exact absurd rfl (he _)
  | cons x pre =>
    rw [List.cons_append, List.cons.injEq] at hl
    obtain ⟨-, rfl⟩ := hl
    simp only [scan_append, scan, Option.bind_eq_some_iff] at hs
    obtain ⟨p1, -, p2, h2, h3⟩ := hs
    exact ⟨p1, p2, h2, h3⟩

theorem scan_gone {es : List Ev} {q : Phase} (h : scan .gone es = some q) : es = [] ∧ q = .gone := by
  cases es <;> simp_all [scan, Phase.next]

/-- what the mutex (`lock`), the history and the wrapper's liveness say about task `i` -/
structure TInv (alive : Bool) (lock : Option Nat) (log : List Ev) (i : Nat) (t : Task) : Prop where
  running : t.pc = .running ↔ lock = some i
  delivered : ∀ r, t.delivered = some r → t.pc = .done r
  notAborted : t.pc ≠ .done .aborted
  doneOk : t.pc = .done .ok → t.beh = .ok ∧ Ev.finish i false ∈ log
  finished : ∀ p, Ev.finish i p ∈ log → t.pc = .done (if p then .panic else .ok)
  fut : alive = false → (t.cancelled || t.delivered.isSome) = true

/-- a task keeps its invariant when mutex and history change in a way that does not concern it -/
theorem TInv.frame {a : Bool} {lock lock' : Option Nat} {log log' : List Ev} {i : Nat} {t : Task}
    (h : TInv a lock log i t) (hl : lock' = some i ↔ lock = some i)
    (hf : ∀ p, Ev.finish i p ∈ log' ↔ Ev.finish i p ∈ log) : TInv a lock' log' i t :=
  ⟨h.running.trans hl.symm, h.delivered, h.notAborted,
   fun hk => ⟨(h.doneOk hk).1, (hf _).mpr (h.doneOk hk).2⟩, fun p hp => h.finished p ((hf p).mp hp), h.fut⟩

theorem TInv.not_delivered {a : Bool} {lock : Option Nat} {log : List Ev} {i : Nat} {t : Task}
    (h : TInv a lock log i t) (hpc : ∀ r, t.pc ≠ .done r) : t.delivered = none := by
  cases hd : t.delivered with
  | none => rfl
  | some r => exact absurd (h.delivered r hd) (hpc r)

/-- the invariant that is proved by induction: one `TInv` per task, the life cycle of the wrapper
as one of three rows, and the log accepted by the automaton in the phase the state is in -/
structure Good (s : State) : Prop where
  task : ∀ i t, s.tasks[i]? = some t → TInv s.alive s.lock s.log i t
  lockLt : ∀ i, s.lock = some i → i < s.tasks.length
  logLt : ∀ i p, Ev.finish i p ∈ s.log → i < s.tasks.length
  /-- in use; dropped, the drop task not yet run; destroyed -/
  life : (s.alive, s.dropPending, s.value, s.destroyed) = (true, false, true, 0) ∨
         (s.alive, s.dropPending, s.value, s.destroyed) = (false, true, true, 0) ∨
         (s.alive, s.dropPending, s.value, s.destroyed) = (false, false, false, 1)
  lockValue : s.lock.isSome → s.value = true
  poisoned : s.poisoned = true ↔ ∃ i, Ev.finish i true ∈ s.log
  scanned : goodLog s.log = some (phaseOf s)

theorem Good.sinv {s : State} (h : Good s) : SInv s := by
  have hl := h.life
  simp only [Prod.mk.injEq] at hl
  refine { lockRunning := fun i => ⟨fun hi => ?_, fun ⟨t, ht, hr⟩ => (h.task i t ht).running.mp hr⟩,
           lockValue := h.lockValue, aliveValue := ?_, deadPending := ?_, pendingValue := ?_,
           destroyedCount := ?_, deadNoFutures := fun ha => ?_,
           delivered := fun i t r ht => (h.task i t ht).delivered r,
           notAborted := fun i t ht => (h.task i t ht).notAborted,
           doneOk := fun i t ht => (h.task i t ht).doneOk,
           finished := fun i p hp => ?_,
           panicked := h.poisoned.mpr, poisonedWhy := h.poisoned.mp, scanned := ?_ }
  · have hlt := h.lockLt i hi
    exact ⟨s.tasks[i], List.getElem?_eq_getElem hlt, (h.task i _ (List.getElem?_eq_getElem hlt)).running.mpr hi⟩
  · rcases hl with hl | hl | hl <;> simp [hl]
  · rcases hl with hl | hl | hl <;> simp [hl]
  · rcases hl with hl | hl | hl <;> simp [hl]
  · rcases hl with hl | hl | hl <;> simp [hl]
  · rw [noFutures, List.all_eq_true]
    intro t ht
    obtain ⟨i, hi⟩ := List.getElem?_of_mem ht
    exact (h.task i t hi).fut ha
  · have hlt := h.logLt i p hp
    exact ⟨s.tasks[i], List.getElem?_eq_getElem hlt, (h.task i _ (List.getElem?_eq_getElem hlt)).finished p hp⟩
  · exact goodLog_eq_some.mp h.scanned

theorem Good.init : Good init := by
  refine ⟨?_, ?_, ?_, Or.inl rfl, ?_, ?_, rfl⟩ <;> simp [Sy.init]

theorem Good.call {s : State} (h : Good s) (b : Beh) (ha : s.alive = true) :
    Good { s with tasks := s.tasks ++ [{ beh := b }] } := by
  refine ⟨forall_append_single h.task ?_ (fun _ _ _ hp => hp), fun i hi => ?_, fun i p hp => ?_,
          h.life, h.lockValue, h.poisoned, h.scanned⟩
  · refine ⟨?_, ?_, ?_, ?_, fun p hp => ?_, ?_⟩ <;> simp [ha]
    · exact fun hl => Nat.lt_irrefl _ (h.lockLt _ hl)
    · exact absurd (h.logLt _ p hp) (Nat.lt_irrefl _)
  · simpa using Nat.lt_succ_of_lt (h.lockLt i hi)
  · simpa using Nat.lt_succ_of_lt (h.logLt i p hp)

theorem Good.begin {s : State} (h : Good s) {i : Nat} {t : Task} (ht : s.tasks[i]? = some t)
    (hpc : t.pc = .spawned) (hl : s.lock = none) (hv : s.value = true) :
    Good { setTask s i { t with pc := .running } with lock := some i, log := s.log ++ [.begin i .blocking] } := by
  refine ⟨forall_set ht h.task (fun ti => ?_) (fun j u hj tj => tj.frame (by simp [hl, Ne.symm hj]) (by simp)),
          fun j hj => ?_, fun j p hp => ?_, h.life, fun _ => hv, ?_, ?_⟩
  · refine ⟨by simp, by simp [ti.not_delivered (by simp [hpc])], by simp, by simp, fun p hp => ?_, ti.fut⟩
    have := ti.finished p (by simpa using hp)
    rw [hpc] at this; cases this
  · cases hj; simpa [setTask] using lt_of_getElem? ht
  · simpa [setTask] using h.logLt j p (by simpa using hp)
  · simpa [setTask] using h.poisoned
  · exact goodLog_append _ h.scanned (by simp [phaseOf, hv, hl, Phase.next, setTask])

/-- `r` and `q` are what the model writes in its two branches (`ok`: `poisoned` untouched; `panic`:
`poisoned := true`); both are this with `p := false` / `p := true` -/
theorem Good.finish {s : State} (h : Good s) {i : Nat} {t : Task} (ht : s.tasks[i]? = some t)
    (hpc : t.pc = .running) (hl : s.lock = some i) (p : Bool) (hb : p = false → t.beh = .ok)
    {r : Res} {q : Bool} (hr : r = if p then .panic else .ok) (hq : q = (s.poisoned || p)) :
    Good { setTask s i { t with pc := .done r } with lock := none, poisoned := q, log := s.log ++ [.finish i p] } := by
  subst hr hq
  have hv : s.value = true := h.lockValue (by simp [hl])
  refine ⟨forall_set ht h.task (fun ti => ?_) (fun j u hj tj => tj.frame (by simp [hl, Ne.symm hj]) (by simp [hj])),
          fun j hj => (by cases hj), fun j q hq => ?_, h.life, fun hk => (by cases hk), ?_, ?_⟩
  · refine ⟨by simp, by simp [ti.not_delivered (by simp [hpc])], by cases p <;> simp, fun hk => ?_,
            fun q hq => ?_, ti.fut⟩
    · cases p <;> simp at hk ⊢; exact hb rfl
    · simp at hq
      rcases hq with hq | rfl
      · have := ti.finished q hq; rw [hpc] at this; cases this
      · rfl
  · simp at hq
    rcases hq with hq | ⟨rfl, _⟩
    · simpa [setTask] using h.logLt j q hq
    · simpa [setTask] using lt_of_getElem? ht
  · cases p <;> simp [h.poisoned]
  · exact goodLog_append _ h.scanned (by simp [phaseOf, hv, hl, Phase.next, setTask])

theorem Good.setTask {s : State} (h : Good s) {i : Nat} {t t' : Task} (ht : s.tasks[i]? = some t)
    (hi : TInv s.alive s.lock s.log i t → TInv s.alive s.lock s.log i t') : Good (setTask s i t') :=
  ⟨forall_set ht h.task hi (fun _ _ _ tj => tj),
   fun j hj => by simpa [Sy.setTask] using h.lockLt j hj,
   fun j p hp => by simpa [Sy.setTask] using h.logLt j p hp,
   h.life, h.lockValue, h.poisoned, h.scanned⟩

theorem Good.dropw {s : State} (h : Good s) (ha : s.alive = true) (hf : noFutures s = true) :
    Good { s with alive := false, dropPending := true } := by
  rw [noFutures, List.all_eq_true] at hf
  refine ⟨fun i t ht => ?_, h.lockLt, h.logLt, ?_, h.lockValue, h.poisoned, h.scanned⟩
  · have ti := h.task i t ht
    exact ⟨ti.running, ti.delivered, ti.notAborted, ti.doneOk, ti.finished, fun _ => hf t (List.mem_of_getElem? ht)⟩
  · have := h.life; simp_all

theorem Good.destroy {s : State} (h : Good s) (hp : s.dropPending = true) (hl : s.lock = none) :
    Good { s with dropPending := false, destroyed := if s.value then s.destroyed + 1 else s.destroyed,
                  value := false, log := if s.value then s.log ++ [.destroy .blocking] else s.log } := by
  have hlife := h.life
  simp only [hp, Prod.mk.injEq, reduceCtorEq, false_and, and_false, false_or, or_false] at hlife
  -- the drop task is pending, so the value is still there
  simp only [hlife.2.2.1]
  refine ⟨fun i t ht => (h.task i t ht).frame Iff.rfl (by simp), h.lockLt,
          fun i p hp => h.logLt i p (by simpa using hp), ?_, by simp [hl], by simpa using h.poisoned, ?_⟩
  · simp [hlife]
  · exact goodLog_append _ h.scanned (by simp [phaseOf, hlife, hl, Phase.next])

theorem Good.step {s s' : State} {a : Action} (h : Good s) (hs : step s a = some s') : Good s' := by
  cases a <;> dsimp only [Sy.step] at hs
  case call b =>
    simp only [Option.ite_none_right_eq_some, Option.some.injEq] at hs
    obtain ⟨ha, rfl⟩ := hs
    exact h.call b ha
  case «begin» i =>
    split at hs <;> simp only [Option.ite_none_right_eq_some, Option.some.injEq, reduceCtorEq] at hs
    obtain ⟨⟨hpc, hl, -, hv⟩, rfl⟩ := hs
    exact h.begin ‹_› hpc hl hv
  case finish i =>
    split at hs <;> simp only [Option.ite_none_right_eq_some, reduceCtorEq] at hs
    obtain ⟨⟨hpc, hl⟩, hs⟩ := hs
    rename_i ht
    split at hs <;> cases hs
    · exact h.finish ht hpc hl false (fun _ => ‹_›) rfl (Bool.or_false _).symm
    · exact h.finish ht hpc hl true (by simp) rfl (Bool.or_true _).symm
  case cancel i =>
    split at hs <;> simp only [Option.ite_none_right_eq_some, Option.some.injEq, reduceCtorEq] at hs
    obtain ⟨-, rfl⟩ := hs
    rename_i ht
    exact h.setTask ht fun ti =>
      ⟨ti.running, ti.delivered, ti.notAborted, ti.doneOk, ti.finished, fun _ => by simp⟩
  case result i r =>
    split at hs <;> simp only [Option.ite_none_left_eq_some, reduceCtorEq] at hs
    rename_i t ht
    obtain ⟨hnf, hs⟩ := hs
    split at hs <;> simp only [Option.ite_none_right_eq_some, Option.some.injEq, reduceCtorEq] at hs
    · rename_i hpc
      obtain ⟨rfl, rfl⟩ := hs
      exact h.setTask ht fun ti =>
        ⟨ti.running, fun _ h2 => by cases h2; exact hpc, ti.notAborted, ti.doneOk, ti.finished, fun _ => by simp⟩
    · -- never entered its closure: the future is alive, so is the wrapper, so the value is there:
      -- the mutex was poisoned (`Aborted` is unreachable)
      rename_i hpc
      obtain ⟨hso, rfl⟩ := hs
      have hv : s.value = true := by
        have := (h.task i t ht).fut; have := h.life; simp_all
      have hr : r = .panic := by
        simp only [spawnedOutcome] at hso
        split at hso <;> simp_all
      subst hr
      exact h.setTask ht fun ti =>
        ⟨by simpa [hpc] using ti.running, by simp, by simp, by simp,
         fun p hp => by have := ti.finished p hp; simp [hpc] at this, fun _ => by simp⟩
  case dropw =>
    simp only [Option.ite_none_right_eq_some, Option.some.injEq] at hs
    obtain ⟨⟨ha, hf⟩, rfl⟩ := hs
    exact h.dropw ha hf
  case destroy =>
    simp only [Option.ite_none_right_eq_some, Option.some.injEq] at hs
    obtain ⟨⟨hp, hl⟩, rfl⟩ := hs
    exact h.destroy hp hl

theorem Good.run? {s s' : State} {acts : List Action} (h : Good s) (hr : run? s acts = some s') : Good s' := by
  induction acts generalizing s with
  | nil => cases hr; exact h
  | cons a as ih =>
    simp only [Sy.run?, Option.bind_eq_some_iff] at hr
    obtain ⟨s1, hs, hr⟩ := hr
    exact ih (Good.step h hs) hr

theorem reach_good {s : State} {acts : List Action} (hr : run? init acts = some s) : Good s :=
  Good.run? Good.init hr

theorem reach_inv {s : State} {acts : List Action} (hr : run? init acts = some s) : SInv s :=
  (reach_good hr).sinv

/-- only `finish` writes `poisoned`, and never `false` -/
theorem step_poisoned {s s' : State} {a : Action} (hs : step s a = some s') (hp : s.poisoned = true) :
    s'.poisoned = true := by
  cases a <;> dsimp only [step] at hs <;> (repeat' split at hs) <;> cases hs <;> first | exact hp | rfl

end Sy
end DeadpoolVerif
