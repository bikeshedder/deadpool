/-
Object conservation: every object id ever allocated is in exactly one place — idle, in a
caller's hands, in the hands of an operation, or gone (destroyed / taken / removed by
retain) — and the ids that are gone are exactly those `Manager::detach` was called for,
once each.  Stated by counting, so that every transition is linear arithmetic.
Preserved by every transition, hence true of every reachable state.
-/
import DeadpoolVerif.Lemmas.Eff

namespace DeadpoolVerif

/-- indicators (the `Decidable` instances are hidden inside, so that terms are syntactically
canonical atoms for `omega`) -/
def eqInd (a b : Nat) : Nat := if a = b then 1 else 0
def ltInd (a b : Nat) : Nat := if a < b then 1 else 0

theorem eqInd_le_one (a b : Nat) : eqInd a b ≤ 1 := by unfold eqInd; split <;> omega
theorem ltInd_le_one (a b : Nat) : ltInd a b ≤ 1 := by unfold ltInd; split <;> omega
theorem ltInd_pos {a b : Nat} : 0 < ltInd a b ↔ a < b := by
  unfold ltInd; split <;> simp [*]
theorem ltInd_mono (id : Nat) {a b : Nat} (h : a ≤ b) : ltInd id a ≤ ltInd id b := by
  unfold ltInd; split <;> split <;> omega

theorem ltInd_succ (id n : Nat) : ltInd id (n + 1) = ltInd id n + eqInd n id := by
  unfold ltInd eqInd
  split <;> split <;> split <;> omega

/-- occurrences of `id` in a list of objects -/
def idCnt (id : Nat) (l : List Obj) : Nat := sumW (fun o => eqInd o.id id) l

/-- ids that leave the pool for good with this event -/
def Ev.goneIds : Ev → List Nat
  | .destroy _ id => [id]
  | .taken _ id => [id]
  | .retained _ _ removed => removed
  | _ => []

def Ev.detachIds : Ev → List Nat
  | .detach _ id => [id]
  | _ => []

def natCnt (id : Nat) (l : List Nat) : Nat := sumW (fun x => eqInd x id) l

def goneCnt (id : Nat) (log : List Ev) : Nat := sumW (fun e => natCnt id e.goneIds) log
def detachCnt (id : Nat) (log : List Ev) : Nat := sumW (fun e => natCnt id e.detachIds) log

@[simp] theorem idCnt_nil (id : Nat) : idCnt id [] = 0 := rfl
@[simp] theorem idCnt_cons (id : Nat) (o : Obj) (l : List Obj) :
    idCnt id (o :: l) = eqInd o.id id + idCnt id l := by simp [idCnt]
@[simp] theorem idCnt_append (id : Nat) (l₁ l₂ : List Obj) :
    idCnt id (l₁ ++ l₂) = idCnt id l₁ + idCnt id l₂ := by simp [idCnt]
@[simp] theorem goneCnt_append (id : Nat) (l₁ l₂ : List Ev) :
    goneCnt id (l₁ ++ l₂) = goneCnt id l₁ + goneCnt id l₂ := by simp [goneCnt]
@[simp] theorem detachCnt_append (id : Nat) (l₁ l₂ : List Ev) :
    detachCnt id (l₁ ++ l₂) = detachCnt id l₁ + detachCnt id l₂ := by simp [detachCnt]
@[simp] theorem goneCnt_nil (id : Nat) : goneCnt id [] = 0 := rfl
@[simp] theorem detachCnt_nil (id : Nat) : detachCnt id [] = 0 := rfl
@[simp] theorem goneCnt_cons (id : Nat) (e : Ev) (l : List Ev) :
    goneCnt id (e :: l) = natCnt id e.goneIds + goneCnt id l := by simp [goneCnt]
@[simp] theorem detachCnt_cons (id : Nat) (e : Ev) (l : List Ev) :
    detachCnt id (e :: l) = natCnt id e.detachIds + detachCnt id l := by simp [detachCnt]
@[simp] theorem natCnt_nil (id : Nat) : natCnt id [] = 0 := rfl
@[simp] theorem natCnt_cons (id x : Nat) (l : List Nat) :
    natCnt id (x :: l) = eqInd x id + natCnt id l := by simp [natCnt]

def Op.heldCnt (id : Nat) (op : Op) : Nat :=
  match op.held with
  | some o => eqInd o.id id
  | none => 0

structure Conserve (s : State) : Prop where
  /-- an allocated id is in exactly one place; an unallocated id is nowhere -/
  place : ∀ id, ltInd id s.nextId =
    idCnt id s.idle + idCnt id s.out + sumW (Op.heldCnt id) s.ops + goneCnt id s.log
  /-- `detach` was called exactly once for every object that is gone, never for another -/
  detach : ∀ id, detachCnt id s.log = goneCnt id s.log

theorem Conserve.init (cfg : Cfg) : Conserve (init cfg) := by
  constructor <;> intro id <;> simp [DeadpoolVerif.init, idCnt, goneCnt, detachCnt, ltInd]

theorem natCnt_append (id : Nat) (l₁ l₂ : List Nat) :
    natCnt id (l₁ ++ l₂) = natCnt id l₁ + natCnt id l₂ := by simp [natCnt]

theorem natCnt_range (id n : Nat) : natCnt id (List.range n) = ltInd id n := by
  induction n with
  | zero => simp [ltInd]
  | succ n ih =>
    rw [List.range_succ, natCnt_append, ih, ltInd_succ]
    simp

theorem natCnt_erase {l : List Nat} {a : Nat} (h : a ∈ l) (id : Nat) :
    natCnt id (l.erase a) + eqInd a id = natCnt id l :=
  sumW_erase _ h

theorem idCnt_erase {l : List Obj} {o : Obj} (h : o ∈ l) (id : Nat) :
    idCnt id (l.erase o) + eqInd o.id id = idCnt id l :=
  sumW_erase _ h

theorem idCnt_sublist {l₁ l₂ : List Obj} (h : l₁.Sublist l₂) (id : Nat) : idCnt id l₁ ≤ idCnt id l₂ :=
  sumW_sublist _ h

theorem idCnt_popIdle {m : QueueMode} {idle rest : List Obj} {o : Obj}
    (h : popIdle m idle = some (o, rest)) (id : Nat) :
    idCnt id rest + eqInd o.id id = idCnt id idle := by
  rcases popIdle_eq_some.mp h with ⟨_, rfl⟩ | ⟨_, rfl⟩ <;> simp <;> omega

theorem idCnt_retain (keep : List Bool) (k : Nat) (l : List Obj) (id : Nat) :
    idCnt id (retainKept keep k l) + idCnt id (retainRemoved keep k l) = idCnt id l := by
  induction l generalizing k with
  | nil => simp [retainKept, retainRemoved]
  | cons o rest ih =>
    simp only [retainKept, retainRemoved]
    have := ih (k + 1)
    split <;> simp only [idCnt_cons] <;> omega

theorem retainEvs_counts (i : Nat) (keep : List Bool) (k : Nat) (l : List Obj) (id : Nat) :
    detachCnt id (retainEvs i keep k l) = idCnt id (retainRemoved keep k l) ∧
    goneCnt id (retainEvs i keep k l) = 0 := by
  unfold detachCnt goneCnt
  rw [sumW_retainEvs _ _ _ _ _ fun _ _ _ => rfl, sumW_retainEvs _ _ _ _ _ fun _ _ _ => rfl]
  exact ⟨by simp [Ev.detachIds, idCnt], sumW_eq_zero_iff.mpr fun _ _ => rfl⟩

theorem drainEvs_counts (i : Nat) (l : List Obj) (id : Nat) :
    detachCnt id (drainEvs i l) = idCnt id l ∧ goneCnt id (drainEvs i l) = idCnt id l := by
  simp [detachCnt, goneCnt, sumW_drainEvs, Ev.detachIds, Ev.goneIds, idCnt]

theorem natCnt_map_id (id : Nat) (l : List Obj) : natCnt id (l.map Obj.id) = idCnt id l := by
  induction l with
  | nil => rfl
  | cons o l ih => simp [ih]

theorem Ev.inert_ids {e : Ev} (h : e.inert = true) : e.goneIds = [] ∧ e.detachIds = [] := by
  cases e <;> first | exact ⟨rfl, rfl⟩ | cases h

theorem counts_inert {es : List Ev} (h : ∀ e ∈ es, e.inert = true) (id : Nat) :
    goneCnt id es = 0 ∧ detachCnt id es = 0 := by
  induction es with
  | nil => exact ⟨rfl, rfl⟩
  | cons e es ih =>
    have := ih fun e he => h e (List.mem_cons_of_mem _ he)
    have he := Ev.inert_ids (h e List.mem_cons_self)
    simpa [he.1, he.2] using this

theorem Op.heldCnt_none {op : Op} (h : op.held = none) (id : Nat) : op.heldCnt id = 0 := by
  simp only [Op.heldCnt, h]

theorem Op.heldCnt_some {op : Op} {o : Obj} (h : op.held = some o) (id : Nat) :
    op.heldCnt id = eqInd o.id id := by
  simp only [Op.heldCnt, h]

/-- every move conserves the objects: what leaves a place arrives at another or is logged as
gone, with one `detach` -/
theorem Move.counts {s : State} {i : Nat} {y x : Op} {oc : Outcome} {es : List Ev} {idle out : List Obj}
    {n : Nat} (m : Move s i y oc x es idle out n) (id : Nat) :
    detachCnt id es = goneCnt id es ∧
    ltInd id n + idCnt id s.idle + idCnt id s.out + y.heldCnt id =
      ltInd id s.nextId + idCnt id idle + idCnt id out + x.heldCnt id + goneCnt id es := by
  cases m with
  | stay hh _ _ evs _ =>
    have := counts_inert (fun e he => (Move.stay_evs evs e he).1) id
    simp only [Op.heldCnt, hh]
    omega
  | pop hy hp =>
    subst hy
    have := idCnt_popIdle hp id
    simp [recycleCall, Ev.goneIds, Ev.detachIds, Op.heldCnt, Op.held]
    omega
  | new hy =>
    subst hy
    have := ltInd_succ id s.nextId
    simp [Op.heldCnt, Op.held]
    omega
  | @out o ob hy kind =>
    have := (Move.out_cause (i := i) kind).1
    rw [Op.heldCnt_some hy]
    simp [Ev.goneIds, Ev.detachIds, Op.heldCnt, Op.held, this]
    omega
  | gone hy hx _ _ _ hf ht =>
    rcases hf with rfl | rfl <;> rcases ht with rfl | rfl <;>
      simp [Ev.goneIds, Ev.detachIds, Op.heldCnt_some hy, Op.heldCnt_none hx]
  | park hy =>
    subst hy
    simp [Ev.goneIds, Ev.detachIds, Op.heldCnt, Op.held]
    omega
  | @drain _ dr _ _ hy hx _ _ _ hi ht =>
    have := drainEvs_counts i dr id
    rcases ht with rfl | rfl <;>
      simp [hi, Ev.goneIds, Ev.detachIds, Op.heldCnt_none hy, Op.heldCnt_none hx, this] <;> omega
  | @retain keep hy =>
    have := idCnt_retain keep 0 s.idle id
    have := retainEvs_counts i keep 0 s.idle id
    have := natCnt_map_id id (retainRemoved keep 0 s.idle)
    subst hy
    simp [Ev.goneIds, Ev.detachIds, Op.heldCnt, Op.held, *]
    omega

theorem Conserve.eff {s s' : State} {i : Nat} {y : Op} {oc : Outcome} (c : Conserve s)
    (hy : s.ops[i]? = some y) (e : Eff s s' i y oc) : Conserve s' := by
  obtain ⟨x, _, _, _, _, h, m⟩ := e
  refine ⟨fun id => ?_, fun id => ?_⟩
  · rw [h.idle, h.out, h.ops, h.nextId, h.log, goneCnt_append]
    have := c.place id
    have := sumW_set (Op.heldCnt id) s.ops i x y hy
    have := (m.counts id).2
    omega
  · rw [h.log, goneCnt_append, detachCnt_append, c.detach id, (m.counts id).1]

theorem Conserve.start {s : State} {x : Op} (c : Conserve s)
    (hm : ∀ o, x.held = some o → o ∈ s.out) : Conserve (s.start x) := by
  refine ⟨fun id => ?_, c.detach⟩
  have := c.place id
  cases hx : x.held with
  | none => simp only [State.start, hx, sumW_append, sumW_cons, sumW_nil, Op.heldCnt_none hx]; omega
  | some o =>
    have := idCnt_erase (hm o hx) id
    simp only [State.start, hx, sumW_append, sumW_cons, sumW_nil, Op.heldCnt_some hx]; omega

theorem Conserve.tick {s : State} (c : Conserve s) : Conserve s.tick := ⟨c.place, c.detach⟩

theorem Conserve.step {s s' : State} {act : Action} (c : Conserve s) (hs : step s act = some s') :
    Conserve s' := by
  cases step_cases hs with
  | start _ _ hm => exact (c.start hm).tick
  | op _ _ hy f => exact (c.eff hy (f.eff hy)).tick

theorem run_conserve (cfg : Cfg) (acts : List Action) : Conserve (run (init cfg) acts) :=
  run_induction acts (Conserve.init cfg) fun _ _ _ => Conserve.step

/-- an id is in at most one place, and nowhere once it is gone -/
theorem Conserve.one_place {s : State} (c : Conserve s) (id : Nat) :
    idCnt id s.idle + idCnt id s.out + sumW (Op.heldCnt id) s.ops + goneCnt id s.log ≤ 1 :=
  c.place id ▸ ltInd_le_one id s.nextId

end DeadpoolVerif
