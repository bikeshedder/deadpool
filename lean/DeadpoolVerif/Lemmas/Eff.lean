/-
What one step does to the objects and to the log.  Every transition of the managed pool is one
of eight moves in the life of an object (`Move`); `Fires.eff` establishes this, for get() rule
by rule from `GetStep`, for the other operations by a traversal of their step functions.  The
object- and log-level invariants (`Conserve`, `ObjInv`, `Tr`, `MetLog`, the ownership of events)
are then preserved move by move.  The notions the moves speak of stand first.
-/
import DeadpoolVerif.Lemmas.GetStep

namespace DeadpoolVerif

/-- an object that has been in a caller's hands -/
def Obj.used (o : Obj) : Prop :=
  o.handouts = o.rc + 1 ∧ (o.recycled = none ↔ o.rc = 0)

/-- an object that was just created and never handed out -/
def Obj.fresh (o : Obj) : Prop := o.handouts = 0 ∧ o.rc = 0 ∧ o.recycled = none

/-- the time stamps of an object are in order: created, then recycled, not after `now` -/
def Obj.timeOK (now : Nat) (o : Obj) : Prop :=
  o.created ≤ now ∧ o.idleSince ≤ now ∧ ∀ r, o.recycled = some r → o.created ≤ r ∧ r ≤ now

/-- what must hold of the object an operation has in hand, by program counter -/
def Op.objOK (now : Nat) : Op → Prop
  | .get _ (.recycling _ o _) => o.used ∧ o.timeOK now
  | .get _ (.createSize o) | .get _ (.postCreate _ o _) => o.fresh ∧ o.timeOK now
  | .get _ (.unreadyLock o _) | .get _ (.unreadyDetach o _) => (o.used ∨ o.fresh) ∧ o.timeOK now
  | .ret _ o => o.used ∧ o.timeOK now
  | .take _ o _ => o.used ∧ o.timeOK now
  | _ => True

def Op.isGet : Op → Bool
  | .get .. => true
  | _ => false

def Ev.op : Ev → Nat
  | .createCall i | .call i .. | .detach i _ | .destroy i _ | .handout i _ | .result i _
  | .returned i _ | .taken i _ | .pred i .. | .retained i .. | .status i .. | .resized i _
  | .closedEv i | .opPanic i => i

def recycleCall (c : Cfg) (i k : Nat) (o : Obj) : Ev :=
  .call i (c.recyclePhase k).1 (c.recyclePhase k).2 o

/-- the event a get() must have logged last while it is inside a callback -/
def Op.lastEv (c : Cfg) (i : Nat) : Op → Option Ev
  | .get _ (.recycling k o _) => some (recycleCall c i k o)
  | .get _ (.postCreate k o _) => some (.call i .postC k o)
  | .get _ (.creating _) => some (.createCall i)
  | .get _ (.createSize _) => some (.createCall i)
  | _ => none

/-- what may stand immediately before `handout i o'` among the events of operation `i` -/
def HandoutCause (c : Cfg) (i : Nat) (e : Ev) (o' : Obj) : Prop :=
  (∃ k o, e = recycleCall c i k o ∧ c.nRecycle ≤ k + 1 ∧ o'.id = o.id ∧
      o'.handouts = o.handouts + 1 ∧ o'.rc = o.rc + 1 ∧ o'.created = o.created) ∨
  (∃ k o, e = .call i .postC k o ∧ c.postC.length ≤ k + 1 ∧ o'.id = o.id ∧
      o'.handouts = o.handouts + 1 ∧ o'.rc = o.rc ∧ o'.created = o.created) ∨
  (e = .createCall i ∧ c.postC.length = 0)

/-- what a `stay` may log besides the call of the callback it enters: the result of a get(), a
status report, the end of a resize -/
def Ev.plain : Ev → Bool
  | .result .. | .status .. | .resized .. => true
  | _ => false

/-- events that neither take an object out of the pool for good nor hand one out -/
def Ev.inert : Ev → Bool
  | .detach .. | .destroy .. | .taken .. | .retained .. | .handout .. => false
  | _ => true

theorem Ev.inert_of_plain {e : Ev} (h : e.plain = true) : e.inert = true := by
  cases e <;> first | rfl | cases h

/-- what a get() logs on entering a callback moves no object and names the get() -/
theorem Op.lastEv_inert_op {op : Op} {c : Cfg} {i : Nat} {e : Ev} (h : op.lastEv c i = some e) :
    e.inert = true ∧ e.op = i := by
  cases op with
  | get t pc => cases pc <;> cases h <;> exact ⟨rfl, rfl⟩
  | _ => cases h

/-- The three situations in which operation `y` hands the object `o` it holds to its caller, as
`ob`: the last callback of the recycle sequence answered ok (the metrics are bumped), the last
`post_create` hook answered ok, or creation finished and there is no such hook. -/
abbrev HandsOut (s : State) (y : Op) (oc : Outcome) (o ob : Obj) : Prop :=
  (∃ t k b, y = .get t (.recycling k o b) ∧ oc = .ok ∧ s.cfg.nRecycle ≤ k + 1 ∧
    ob = { o with rc := o.rc + 1, recycled := some s.now }.bump) ∨
  (∃ t k b, y = .get t (.postCreate k o b) ∧ oc = .ok ∧ s.cfg.postC.length ≤ k + 1 ∧
    ob = o.bump) ∨
  ∃ t, y = .get t (.createSize o) ∧ oc = .run ∧ s.cfg.postC.length = 0 ∧ ob = o.bump

/-- The rules.  `Move s i y oc x es idle out n`: operation `i`, standing at `y`, goes on to `x`,
logs `es` and leaves the idle queue `idle`, the checked-out objects `out` and the next id `n`. -/
inductive Move (s : State) (i : Nat) (y : Op) (oc : Outcome) :
    Op → List Ev → List Obj → List Obj → Nat → Prop
  /-- no object changes place; what is logged is plain or the call of the callback entered
  (`hg`, here and below: only a get() goes on as a get(), which `Fires.nonget` reads off) -/
  | stay {x es} (hh : x.held = y.held) (hg : x.isGet = true → y.isGet = true)
      (ok : ∀ n, y.objOK n → x.objOK n)
      (evs : ∀ e ∈ es, e.plain = true ∧ e.op = i ∨ x.lastEv s.cfg i = some e)
      (last : ∀ e, x.lastEv s.cfg i = some e →
        es.getLast? = some e ∨ es = [] ∧ y.lastEv s.cfg i = some e) :
      Move s i y oc x es s.idle s.out s.nextId
  /-- idle → in hand, entering callback 0 of the recycle sequence -/
  | pop {t o rest} (hy : y = .get t .pop) (hp : popIdle s.cfg.mode s.idle = some (o, rest)) :
      Move s i y oc (.get t (.recycling 0 o false)) [recycleCall s.cfg i 0 o] rest s.out s.nextId
  /-- `Manager::create` answered: a new object with the next id -/
  | new {t b} (hy : y = .get t (.creating b)) :
      Move s i y oc (.get t (.createSize { id := s.nextId, created := s.now })) [] s.idle s.out
        (s.nextId + 1)
  /-- in hand → checked out, after the last check -/
  | out {o ob} (hy : y.held = some o) (kind : HandsOut s y oc o ob) :
      Move s i y oc .done [.handout i ob, .result i (.ok ob.id)] s.idle (s.out ++ [ob]) s.nextId
  /-- in hand → gone (destroyed, or given to the caller of `take`) -/
  | gone {x o fin tl} (hy : y.held = some o) (hx : x.held = none)
      (hg : x.isGet = true → y.isGet = true) (hl : x.lastEv s.cfg i = none)
      (ok : ∀ n, x.objOK n) (hf : fin = .destroy i o.id ∨ fin = .taken i o.id)
      (ht : tl = [] ∨ tl = [.opPanic i]) :
      Move s i y oc x (.detach i o.id :: fin :: tl) s.idle s.out s.nextId
  /-- in hand → idle (a return) -/
  | park {o} (hy : y = .ret .lock o) :
      Move s i y oc (.ret .addPermits { o with idleSince := s.now }) [.returned i o.id]
        (s.idle ++ [{ o with idleSince := s.now }]) s.out s.nextId
  /-- idle → gone, from the front (`close`, a shrinking `resize`) -/
  | drain {x dr rest tl} (hy : y.held = none) (hx : x.held = none)
      (hg : x.isGet = true → y.isGet = true)
      (hl : x.lastEv s.cfg i = none) (ok : ∀ n, x.objOK n) (hi : s.idle = dr ++ rest)
      (ht : tl = [] ∨ tl = [.closedEv i]) :
      Move s i y oc x (drainEvs i dr ++ tl) rest s.out s.nextId
  /-- idle → gone, by `retain` -/
  | retain {keep} (hy : y = .retain keep) :
      Move s i y oc .done
        (retainEvs i keep 0 s.idle ++
          [.retained i (retainKept keep 0 s.idle).length ((retainRemoved keep 0 s.idle).map Obj.id)])
        (retainKept keep 0 s.idle) s.out s.nextId

namespace Move
variable {s : State} {i : Nat} {y x : Op} {oc : Outcome} {es : List Ev}

/-! Three ways to build a `stay`: one plain event, the call event of the callback entered, nothing. -/

theorem note (e : Ev) (hh : x.held = y.held) (hg : x.isGet = true → y.isGet = true)
    (ok : ∀ n, y.objOK n → x.objOK n)
    (hp : e.plain = true) (ho : e.op = i)
    (hl : x.lastEv s.cfg i = none ∨ x.lastEv s.cfg i = some e) :
    Move s i y oc x [e] s.idle s.out s.nextId :=
  .stay hh hg ok (fun _ h => .inl (by cases List.mem_singleton.mp h; exact ⟨hp, ho⟩)) fun e' he => .inl (by
    rcases hl with h | h
    · rw [h] at he; cases he
    · rw [h] at he; cases he; rfl)

theorem call (e : Ev) (hh : x.held = y.held) (hg : x.isGet = true → y.isGet = true)
    (ok : ∀ n, y.objOK n → x.objOK n)
    (hl : x.lastEv s.cfg i = some e) : Move s i y oc x [e] s.idle s.out s.nextId :=
  .stay hh hg ok (fun _ h => .inr (by cases List.mem_singleton.mp h; exact hl)) fun e' he => .inl (by
    rw [hl] at he; cases he; rfl)

theorem silent (hh : x.held = y.held) (hg : x.isGet = true → y.isGet = true)
    (ok : ∀ n, y.objOK n → x.objOK n)
    (hl : x.lastEv s.cfg i = none ∨ x.lastEv s.cfg i = y.lastEv s.cfg i) :
    Move s i y oc x [] s.idle s.out s.nextId :=
  .stay hh hg ok (fun _ h => nomatch h) fun e he => .inr ⟨rfl, by
    rcases hl with h | h
    · rw [h] at he; cases he
    · rw [← h]; exact he⟩

theorem out_cause {o ob : Obj} (kind : HandsOut s y oc o ob) :
    ob.id = o.id ∧ ∃ e, y.lastEv s.cfg i = some e ∧ HandoutCause s.cfg i e ob := by
  obtain ⟨_, k, _, rfl, -, hk, rfl⟩ | ⟨_, k, _, rfl, -, hk, rfl⟩ | ⟨_, rfl, -, hk, rfl⟩ := kind
  · exact ⟨rfl, _, rfl, .inl ⟨k, o, rfl, hk, rfl, rfl, rfl, rfl⟩⟩
  · exact ⟨rfl, _, rfl, .inr (.inl ⟨k, o, rfl, hk, rfl, rfl, rfl, rfl⟩)⟩
  · exact ⟨rfl, _, rfl, .inr (.inr ⟨rfl, hk⟩)⟩

theorem stay_evs (evs : ∀ e ∈ es, e.plain = true ∧ e.op = i ∨ x.lastEv s.cfg i = some e) :
    ∀ e ∈ es, e.inert = true ∧ e.op = i := fun e he =>
  (evs e he).elim (fun h => ⟨Ev.inert_of_plain h.1, h.2⟩) Op.lastEv_inert_op

theorem isGet {idle out : List Obj} {n : Nat} (m : Move s i y oc x es idle out n)
    (hx : x.isGet = true) : y.isGet = true := by
  cases m with
  | stay _ hg _ _ _ | gone _ _ hg _ _ _ _ | drain _ _ hg _ _ _ _ => exact hg hx
  | pop hy _ | new hy => subst hy; rfl
  | _ => cases hx

end Move

/-- `s'` is `s` after operation `i`, which stood at `y`, made one of the moves -/
def Eff (s s' : State) (i : Nat) (y : Op) (oc : Outcome) : Prop :=
  ∃ x es idle out n, After s s' (s.ops.set i x) es idle out n ∧ Move s i y oc x es idle out n

theorem Eff.intro {s s' : State} {i : Nat} {y x : Op} {oc : Outcome} {es : List Ev}
    {idle out : List Obj} {n : Nat}
    (hv : s'.view = ⟨s.cfg, idle, out, s.ops.set i x, n, s.now, s.log ++ es⟩)
    (m : Move s i y oc x es idle out n) : Eff s s' i y oc := by
  obtain ⟨h1, h2, h3, h4, h5, h6, h7⟩ := View.mk.inj hv
  exact ⟨_, _, _, _, _, ⟨h1, h2, h3, h4, h5, h6, h7⟩, m⟩

theorem Eff.silent {s s' : State} {i : Nat} {y : Op} {oc : Outcome} (x : Op)
    (hv : s'.view = ⟨s.cfg, s.idle, s.out, s.ops.set i x, s.nextId, s.now, s.log⟩)
    (hh : x.held = y.held) (hg : x.isGet = true → y.isGet = true)
    (ok : ∀ n, y.objOK n → x.objOK n)
    (hl : x.lastEv s.cfg i = none ∨ x.lastEv s.cfg i = y.lastEv s.cfg i) : Eff s s' i y oc :=
  .intro (by rw [List.append_nil]; exact hv) (.silent hh hg ok hl)

/-- the control flow of get() in terms of the moves -/
theorem GetStep.move {s : State} {i : Nat} {t : Timeouts} {pc : GPc} {oc : Outcome} {x : Op}
    {es : List Ev} {idle out : List Obj} {n : Nat} (st : GetStep s i t pc oc x es idle out n) :
    Move s i (.get t pc) oc x es idle out n := by
  cases st with
  | noRuntime | dropUsers => exact .note _ rfl (fun _ => rfl) (fun _ _ => trivial) rfl rfl (.inl rfl)
  | enter | popFail | createFail | dropPermit =>
    exact .silent rfl (fun _ => rfl) (fun _ _ => trivial) (.inl rfl)
  | acquire h =>
    rcases h with rfl | ⟨rfl, -⟩ | ⟨_, -, rfl⟩
    all_goals exact .silent rfl (fun _ => rfl) (fun _ _ => trivial) (.inl rfl)
  | queued h =>
    rcases h with rfl | rfl | ⟨_, -, rfl⟩
    all_goals exact .silent rfl (fun _ => rfl) (fun _ _ => trivial) (.inl rfl)
  | pop hp => exact .pop rfl hp
  | popCreate => exact .call (.createCall i) rfl (fun _ => rfl) (fun _ _ => trivial) rfl
  | recycleNext | sized | hookNext => exact .call _ rfl (fun _ => rfl) (fun _ h => h) rfl
  | recycleDone hk => exact .out rfl (.inl ⟨_, _, _, rfl, rfl, Nat.le_of_not_lt hk, rfl⟩)
  | sizedDone hk => exact .out rfl (.inr (.inr ⟨_, rfl, rfl, Nat.eq_zero_of_not_pos hk, rfl⟩))
  | hookDone hk => exact .out rfl (.inr (.inl ⟨_, _, _, rfl, rfl, Nat.le_of_not_lt hk, rfl⟩))
  | recycleWait | createWait | hookWait | unready =>
    exact .silent rfl (fun _ => rfl) (fun _ h => h) (.inr rfl)
  | recycleFail => exact .silent rfl (fun _ => rfl) (fun _ h => ⟨.inl h.1, h.2⟩) (.inl rfl)
  | hookFail => exact .silent rfl (fun _ => rfl) (fun _ h => ⟨.inr h.1, h.2⟩) (.inl rfl)
  | created => exact .new rfl
  | detached h =>
    rcases h with ⟨-, rfl⟩ | ⟨_, -, rfl⟩ | rfl
    all_goals exact .gone rfl rfl (fun _ => rfl) rfl (fun _ => trivial) (.inl rfl) (.inl rfl)

theorem stepGet_eff {s s' : State} {i : Nat} {t : Timeouts} {pc : GPc} {oc : Outcome}
    (hs : stepGet s i t pc oc = some s') : Eff s s' i (.get t pc) oc := by
  obtain ⟨-, x, es, idle, out, n, a, st, -⟩ := stepGet_spec hs
  exact ⟨_, _, _, _, _, a, st.move⟩

theorem stepRet_eff {s s' : State} {i : Nat} {oc : Outcome} {pc : RPc} {o : Obj}
    (hs : stepRet s i pc o = some s') : Eff s s' i (.ret pc o) oc := by
  cases pc <;> simp only [stepRet] at hs
  · cases hs; exact .silent _ rfl rfl nofun (fun _ h => h) (.inl rfl)
  · repeat' split at hs
    all_goals cases hs
    · exact .intro rfl (.park rfl)
    · exact .silent _ rfl rfl nofun (fun _ h => h) (.inl rfl)
  · cases hs; exact .silent _ rfl rfl nofun (fun _ _ => trivial) (.inl rfl)
  · cases hs; exact .intro rfl (.gone rfl rfl nofun rfl (fun _ => trivial) (.inl rfl) (.inl rfl))

theorem stepTake_eff {s s' : State} {i : Nat} {oc : Outcome} {pc : TPc} {o : Obj} {add : Bool}
    (hs : stepTake s i pc o add = some s') : Eff s s' i (.take pc o add) oc := by
  cases pc <;> simp only [stepTake] at hs
  · cases hs; exact .silent _ rfl rfl nofun (fun _ h => h) (.inl rfl)
  · split at hs <;> cases hs
    exact .silent _ rfl rfl nofun (fun _ h => h) (.inl rfl)
  · cases hs; exact .silent _ rfl rfl nofun (fun _ h => h) (.inl rfl)
  · cases hs; exact .intro rfl (.gone rfl rfl nofun rfl (fun _ => trivial) (.inr rfl) (.inl rfl))

theorem stepResize_eff {s s' : State} {i n old : Nat} {oc : Outcome} {c : Bool} {pc : ZPc}
    (hy : s.ops[i]? = some (.resize n c pc old))
    (hs : stepResize s i n c pc old = some s') : Eff s s' i (.resize n c pc old) oc := by
  cases pc <;> simp only [stepResize] at hs
  · cases hs; exact .silent _ rfl rfl nofun (fun _ _ => trivial) (.inl rfl)
  · repeat' split at hs
    all_goals cases hs
    · exact .intro rfl (.drain rfl rfl nofun rfl (fun _ => trivial)
        (List.append_nil _).symm (.inr rfl))
    · exact .intro rfl (.note (.resized i n) rfl nofun (fun _ _ => trivial) rfl rfl (.inl rfl))
    · exact .silent _ rfl rfl nofun (fun _ _ => trivial) (.inl rfl)
    · exact .silent _ rfl rfl nofun (fun _ _ => trivial) (.inl rfl)
    · exact .intro rfl (.note (.resized i n) rfl nofun (fun _ _ => trivial) rfl rfl (.inl rfl))
  · -- shrink: the operation stays where it is while it collects
    repeat' split at hs
    all_goals cases hs
    · rename_i o rest hi
      exact .intro (congrArg (View.mk _ _ _ · _ _ _) (set_self hy).symm)
        (.drain (dr := [o]) rfl rfl nofun rfl (fun _ => trivial) hi (.inl rfl))
    · exact .silent (.resize n c .shrink old) (congrArg (View.mk _ _ _ · _ _ _) (set_self hy).symm)
        rfl nofun (fun _ h => h)
        (.inr rfl)
    · exact .intro rfl (.note (.resized i n) rfl nofun (fun _ _ => trivial) rfl rfl (.inl rfl))
    · exact .intro rfl (.note (.resized i n) rfl nofun (fun _ _ => trivial) rfl rfl (.inl rfl))
  · cases hs
    exact .intro rfl (.note (.resized i n) rfl nofun (fun _ _ => trivial) rfl rfl (.inl rfl))

/-- **The step effect.** A step of operation `i` makes one of the moves. -/
theorem Fires.eff {s s' : State} {i : Nat} {oc : Outcome} {y : Op} (f : Fires s i oc s' y)
    (hy : s.ops[i]? = some y) : Eff s s' i y oc := by
  cases f with
  | get h => exact stepGet_eff h
  | ret h => exact stepRet_eff h
  | retPanic h | takePanic h =>
    cases h; exact .intro rfl (.gone rfl rfl nofun rfl (fun _ => trivial) (.inl rfl) (.inr rfl))
  | take h => exact stepTake_eff h
  | resize h => exact stepResize_eff hy h
  | retain h => leaves [stepRetain] at h; exact .intro rfl (.retain rfl)
  | status h =>
    leaves [stepStatus] at h
    exact .intro rfl (.note _ rfl nofun (fun _ _ => trivial) rfl rfl (.inl rfl))

theorem Op.init.isGet {sp : Spec} {x : Op} (h : Op.init sp x) :
    (∃ t, x = .get t .enter) ∨ x.isGet = false := by
  cases sp
  case get => exact .inl ⟨_, h⟩
  case ret | take => obtain ⟨_, _, rfl⟩ := h; exact .inr rfl
  all_goals cases h; exact .inr rfl

theorem Op.init.lastEv {sp : Spec} {x : Op} (h : Op.init sp x) (c : Cfg) (i : Nat) :
    x.lastEv c i = none := by
  cases sp
  case ret | take => obtain ⟨_, _, rfl⟩ := h; rfl
  all_goals cases h; rfl

/-- a freshly started operation is in order if the object it picked up is -/
theorem Op.init.objOK {sp : Spec} {x : Op} (h : Op.init sp x) {n : Nat}
    (ho : ∀ o, x.held = some o → o.used ∧ o.timeOK n) : x.objOK n := by
  cases sp
  case ret | take => obtain ⟨_, _, rfl⟩ := h; exact ho _ rfl
  all_goals cases h; trivial

end DeadpoolVerif
