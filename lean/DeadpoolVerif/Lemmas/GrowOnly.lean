/-
Histories in which `max_size` is never lowered: every `resize(n)` takes the mutex with
`n ≥` the current `max_size`, and the pool is not closed.  In such histories the ghost `debt`
(capacity a shrink could not collect) stays 0, so the accounting invariant gives the C01
bound with the *current* `max_size`.
-/
import DeadpoolVerif.Lemmas.Frame

namespace DeadpoolVerif

/-- the action does not lower `max_size`: it is not a `close()`, and if it is the step in
which a `resize(n)` takes the mutex then `n` is at least the current `max_size` -/
def growOnlyAct (s : State) : Action → Bool
  | .start .close => false
  | .step i _ =>
    match s.ops[i]? with
    | some (.resize n false .lock _) => decide (s.maxSize ≤ n)
    | some (.resize _ true _ _) => false
    | _ => true
  | _ => true

/-- every action of the history is `growOnlyAct` in the state it is taken in -/
def GrowOnly : State → List Action → Prop
  | _, [] => True
  | s, a :: as => growOnlyAct s a = true ∧ GrowOnly ((step s a).getD s) as

-- (so that a concrete history can be checked by evaluation)
instance GrowOnly.dec : ∀ (s : State) (acts : List Action), Decidable (GrowOnly s acts)
  | _, [] => isTrue trivial
  | s, a :: as =>
    have := GrowOnly.dec ((step s a).getD s) as
    show Decidable (growOnlyAct s a = true ∧ GrowOnly ((step s a).getD s) as) from inferInstance

/-- a step that does not lower `max_size` does not create debt: only the resize that takes the
mutex can, and then by `max_size - n` -/
theorem step_debt_zero {s s' : State} {a : Action} (hd : s.debt = 0)
    (hg : growOnlyAct s a = true) (hs : step s a = some s') : s'.debt = 0 := by
  cases step_cases hs with
  | start => exact hd
  | op _ s1 hy f =>
    show s1.debt = 0
    simp only [growOnlyAct, hy] at hg
    cases f.ctrl hy with
    | framed hl e => exact Nat.le_zero.mp (hd ▸ e.debt hl)
    | close => cases hg
    | lockClosed _ _ e => rw [e]; exact hd
    | lockOpen _ e => rw [e.debt, hd, Nat.sub_eq_zero_of_le (of_decide_eq_true hg)]

theorem run_debt_zero (s : State) (acts : List Action) (hd : s.debt = 0) (hg : GrowOnly s acts) :
    (run s acts).debt = 0 :=
  run_induction_guarded (G := GrowOnly) id (fun _ _ _ h g => step_debt_zero h g) acts hd hg

end DeadpoolVerif
