/-
Per-object invariants: metrics tell the truth (recycle_count = hand-outs - 1, `recycled`
absent exactly until the first reuse, timestamps ordered) wherever the object is, and the
idle queue is ordered by the time the objects were returned.  Preserved by every transition.
-/
import DeadpoolVerif.Lemmas.Eff

namespace DeadpoolVerif

theorem Obj.timeOK_mono {o : Obj} {n m : Nat} (h : o.timeOK n) (hnm : n ≤ m) : o.timeOK m := by
  obtain ⟨h1, h2, h3⟩ := h
  exact ⟨by omega, by omega, fun r hr => ⟨(h3 r hr).1, by have := (h3 r hr).2; omega⟩⟩

/-- what the metrics carried by an event must look like -/
def Ev.metricsOK : Ev → Prop
  | .call _ .postC _ o => o.fresh
  | .call _ _ _ o => o.used
  | .handout _ o => o.used
  | .pred _ _ o _ => o.used
  | _ => True

structure ObjInv (s : State) : Prop where
  idle : ∀ o ∈ s.idle, o.used ∧ o.timeOK s.now
  out : ∀ o ∈ s.out, o.used ∧ o.timeOK s.now
  ops : ∀ op ∈ s.ops, op.objOK s.now
  sorted : s.idle.Pairwise (fun a b => a.idleSince ≤ b.idleSince)
  log : ∀ e ∈ s.log, e.metricsOK

theorem ObjInv.pooled {s : State} (v : ObjInv s) :
    ∀ o ∈ s.idle ++ s.out, o.used ∧ o.timeOK s.now :=
  List.forall_mem_append.mpr ⟨v.idle, v.out⟩

theorem ObjInv.init (cfg : Cfg) : ObjInv (init cfg) := by
  refine ⟨?_, ?_, ?_, ?_, ?_⟩ <;> simp [DeadpoolVerif.init]

theorem Op.objOK_mono {op : Op} {n m : Nat} (h : op.objOK n) (hnm : n ≤ m) : op.objOK m := by
  cases op with
  | get t pc =>
    cases pc <;> simp only [Op.objOK] at * <;> exact ⟨h.1, Obj.timeOK_mono h.2 hnm⟩
  | ret pc o | take pc o a => exact ⟨h.1, Obj.timeOK_mono h.2 hnm⟩
  | _ => trivial

theorem ObjInv.tick {s : State} (v : ObjInv s) : ObjInv s.tick :=
  ⟨fun o ho => ⟨(v.idle o ho).1, Obj.timeOK_mono (v.idle o ho).2 (Nat.le_succ _)⟩,
   fun o ho => ⟨(v.out o ho).1, Obj.timeOK_mono (v.out o ho).2 (Nat.le_succ _)⟩,
   fun op hop => Op.objOK_mono (v.ops op hop) (Nat.le_succ _), v.sorted, v.log⟩

theorem used_bump_recycled {o : Obj} {now : Nat} (hop : o.used ∧ Obj.timeOK now o) :
    ({ o with rc := o.rc + 1, recycled := some now, handouts := o.handouts + 1 } : Obj).used ∧
    Obj.timeOK now { o with rc := o.rc + 1, recycled := some now, handouts := o.handouts + 1 } := by
  obtain ⟨⟨h1, h2⟩, h3, h4, h5⟩ := hop
  refine ⟨⟨?_, ?_⟩, ?_, ?_, ?_⟩
  · show o.handouts + 1 = o.rc + 1 + 1; omega
  · simp
  · exact h3
  · exact h4
  · intro r hr
    have : now = r := by simpa using hr
    subst this
    exact ⟨h3, Nat.le_refl _⟩

theorem used_bump_fresh {o : Obj} {now : Nat} (hop : o.fresh ∧ Obj.timeOK now o) :
    ({ o with handouts := o.handouts + 1 } : Obj).used ∧
    Obj.timeOK now { o with handouts := o.handouts + 1 } := by
  obtain ⟨⟨h1, h2, h3⟩, h4⟩ := hop
  refine ⟨⟨?_, ?_⟩, h4⟩
  · show o.handouts + 1 = o.rc + 1; omega
  · simp [h2, h3]

theorem metricsOK_call_recycle (c : Cfg) (k i : Nat) (o : Obj) (h : o.used) :
    (recycleCall c i k o).metricsOK := by
  unfold recycleCall Cfg.recyclePhase
  split
  · exact h
  · split <;> exact h

theorem Ev.metricsOK_of_plain {e : Ev} (h : e.plain = true) : e.metricsOK := by
  cases e <;> trivial

/-- the metrics a callback is shown are those of the object in hand -/
theorem Op.lastEv_metricsOK {op : Op} {c : Cfg} {i n : Nat} {e : Ev} (h : op.lastEv c i = some e)
    (ok : op.objOK n) : e.metricsOK := by
  cases op with
  | get t pc =>
    cases pc <;> cases h
    · exact metricsOK_call_recycle c _ i _ ok.1
    · trivial
    · trivial
    · exact ok.1
  | _ => cases h

theorem used_set_idleSince {o : Obj} {now : Nat} (h : o.used ∧ Obj.timeOK now o) :
    ({ o with idleSince := now } : Obj).used ∧ Obj.timeOK now { o with idleSince := now } :=
  ⟨h.1, h.2.1, Nat.le_refl _, h.2.2.2⟩

/-- what a move leaves behind is in order if what it found was -/
theorem Move.objs {s : State} {i : Nat} {y x : Op} {oc : Outcome} {es : List Ev} {idle out : List Obj} {n : Nat}
    (m : Move s i y oc x es idle out n) (v : ObjInv s) (hy : y.objOK s.now) :
    x.objOK s.now ∧ (∀ e ∈ es, e.metricsOK) ∧ (∀ o ∈ idle, o.used ∧ o.timeOK s.now) ∧
      (∀ o ∈ out, o.used ∧ o.timeOK s.now) ∧
      idle.Pairwise (fun a b => a.idleSince ≤ b.idleSince) := by
  cases m with
  | stay _ _ ok evs _ =>
    refine ⟨ok _ hy, fun e he => ?_, v.idle, v.out, v.sorted⟩
    exact (evs e he).elim (fun h => Ev.metricsOK_of_plain h.1) fun h => Op.lastEv_metricsOK h (ok _ hy)
  | pop _ hp =>
    obtain ⟨hm, hsub⟩ := popIdle_mem hp
    have ho := v.idle _ hm
    exact ⟨ho, fun e he => by cases List.mem_singleton.mp he; exact metricsOK_call_recycle _ _ _ _ ho.1,
      fun o h => v.idle o (hsub.subset h), v.out, v.sorted.sublist hsub⟩
  | new _ =>
    exact ⟨⟨⟨rfl, rfl, rfl⟩, Nat.le_refl _, Nat.zero_le _, nofun⟩, nofun, v.idle, v.out, v.sorted⟩
  | @out o ob hy' kind =>
    have hob : ob.used ∧ ob.timeOK s.now := by
      obtain ⟨_, _, _, rfl, -, -, rfl⟩ | ⟨_, _, _, rfl, -, -, rfl⟩ | ⟨_, rfl, -, -, rfl⟩ := kind
      · exact used_bump_recycled hy
      · exact used_bump_fresh hy
      · exact used_bump_fresh hy
    refine ⟨trivial, ?_, v.idle, forall_mem_append_single v.out hob, v.sorted⟩
    simp [Ev.metricsOK, hob.1]
  | gone _ _ _ _ ok hf ht =>
    refine ⟨ok _, ?_, v.idle, v.out, v.sorted⟩
    rcases hf with rfl | rfl <;> rcases ht with rfl | rfl <;> simp [Ev.metricsOK]
  | park hy' =>
    subst hy'
    have ho := used_set_idleSince hy
    exact ⟨ho, by simp [Ev.metricsOK], forall_mem_append_single v.idle ho, v.out,
      pairwise_append_single v.sorted fun a ha => (v.idle a ha).2.2.1⟩
  | @drain _ dr rest _ _ _ _ _ ok hi ht =>
    have hsub : List.Sublist _ s.idle := hi ▸ List.sublist_append_right dr _
    refine ⟨ok _, fun e he => ?_, fun o h => v.idle o (hsub.subset h), v.out, v.sorted.sublist hsub⟩
    rcases List.mem_append.mp he with h | h
    · exact forall_mem_drainEvs.mpr (fun _ _ => ⟨trivial, trivial⟩) e h
    · rcases ht with rfl | rfl <;> simp at h; subst h; trivial
  | @retain keep _ =>
    have hsub := retainKept_sublist keep 0 s.idle
    exact ⟨trivial, forall_mem_append_single
        (forall_mem_retainEvs (fun _ o ho _ => (v.idle o ho).1) (fun _ _ => trivial) 0) trivial,
      fun o h => v.idle o (hsub.subset h), v.out, v.sorted.sublist hsub⟩

theorem ObjInv.eff {s s' : State} {i : Nat} {y : Op} {oc : Outcome} (v : ObjInv s)
    (hy : s.ops[i]? = some y) (e : Eff s s' i y oc) : ObjInv s' := by
  obtain ⟨_, _, _, _, _, a, m⟩ := e
  obtain ⟨hx, hes, h1, h2, h3⟩ := m.objs v (v.ops y (List.mem_of_getElem? hy))
  refine ⟨?_, ?_, ?_, ?_, ?_⟩
  · rw [a.idle, a.now]; exact h1
  · rw [a.out, a.now]; exact h2
  · rw [a.ops, a.now]; exact forall_mem_set v.ops hx
  · rw [a.idle]; exact h3
  · rw [a.log]
    exact fun e he => (List.mem_append.mp he).elim (v.log e) (hes e)

theorem ObjInv.start {s : State} {sp : Spec} {x : Op} (v : ObjInv s) (hi : Op.init sp x)
    (hm : ∀ o, x.held = some o → o ∈ s.out) : ObjInv (s.start x) :=
  ⟨v.idle, fun o ho => v.out o ((s.start_out_sublist x).subset ho),
    forall_mem_append_single v.ops (hi.objOK fun o ho => v.out o (hm o ho)), v.sorted, v.log⟩

theorem ObjInv.step {s s' : State} {act : Action} (v : ObjInv s) (hs : step s act = some s') :
    ObjInv s' := by
  cases step_cases hs with
  | start _ hi hm => exact (v.start hi hm).tick
  | op _ _ hy f => exact (v.eff hy (f.eff hy)).tick

theorem run_objinv (cfg : Cfg) (acts : List Action) : ObjInv (run (init cfg) acts) :=
  run_induction acts (ObjInv.init cfg) fun _ _ _ => ObjInv.step

end DeadpoolVerif
