/-
How a step of the unmanaged pool model is taken apart (the counterpart of `Lemmas/Step.lean`):
induction over a run, the one case analysis of `stepOp`, and what a step leaves alone (`Frame`).
-/
import DeadpoolVerif.Model.Unmanaged
import DeadpoolVerif.Lemmas.Step
import DeadpoolVerif.Lemmas.Sem

namespace DeadpoolVerif
namespace U

/-- `Fires s i oc s' y`: the enabled `stepOp s i oc = some s'` found `y` at index `i`; the
constructor says which step function ran.  (The arguments are explicit so that `rcases` can name
and split them.) -/
inductive Fires (s : State) (i : Nat) (oc : Outcome) (s' : State) : Op → Prop
  | get (w t r pc) (h : stepGet s i w t r pc oc = some s') : Fires s i oc s' (.get w t r pc)
  | add (id t pc) (h : stepAdd s i id t pc oc = some s') : Fires s i oc s' (.add id t pc)
  | ret (id pc) (h : stepRet s i id pc = some s') : Fires s i oc s' (.ret id pc)
  | take (id pc v) (h : stepTake s i id pc v = some s') : Fires s i oc s' (.take id pc v)
  | close (pc) (h : stepClose s i pc = some s') : Fires s i oc s' (.close pc)
  | status (h : s' = (s.setOp i .done).emit [.status i (status s).1 (status s).2.1 (status s).2.2.1
      (status s).2.2.2]) : Fires s i oc s' .status

theorem stepOp_fires {s s' : State} {i : Nat} {oc : Outcome} (hs : stepOp s i oc = some s') :
    ∃ y, s.ops[i]? = some y ∧ Fires s i oc s' y := by
  unfold stepOp at hs
  split at hs
  · cases hs
  · rename_i y hy
    refine ⟨y, hy, ?_⟩
    cases y <;> dsimp only at hs <;> (try split at hs)
    case get => exact .get _ _ _ _ hs
    case add => exact .add _ _ _ hs
    case ret.isTrue | take.isTrue | close.isTrue => constructor; exact hs
    case status.isTrue => cases hs; exact .status rfl
    all_goals cases hs

theorem run_induction {P : State → Prop} {s : State} (acts : List Action) (h0 : P s)
    (hstep : ∀ s a s', P s → step s a = some s' → P s') : P (run s acts) :=
  foldl_getD_induction step (fun _ _ => trivial) h0
    fun s a s' h _ => hstep s a s' h

/-- starting an operation appends it; besides `ops` only `hands` and `nextId` can change -/
theorem startOp_eq {s s' : State} {sp : Spec} (hs : startOp s sp = some s') :
    ∃ x H n, s' = { s with ops := s.ops ++ [x], hands := H, nextId := n } := by
  leaves [startOp] at hs
  all_goals exact ⟨_, _, _, rfl⟩

/-- What a step of operation `i` leaves alone: the configuration; and each semaphore is only
called, except by the two steps of `close()` that close them. -/
structure Frame (s s' : State) (i : Nat) : Prop where
  cfg : s'.cfg = s.cfg
  sem : Sem.Called s.sem s'.sem ∨
    s.ops[i]? = some (.close .sem) ∧ s' = { s with sem := s.sem.close }.setOp i (.close .sizeSem)
  sizeSem : Sem.Called s.sizeSem s'.sizeSem ∨
    s.ops[i]? = some (.close .sizeSem) ∧ s' = { s with sizeSem := s.sizeSem.close }.setOp i (.close .clear)

theorem stepOp_frame {s s' : State} {i : Nat} {oc : Outcome} (hs : stepOp s i oc = some s') :
    Frame s s' i := by
  obtain ⟨y, h, f⟩ := stepOp_fires hs
  rcases f with ⟨w, t, r, pc, hs⟩ | ⟨id, t, pc, hs⟩ | ⟨id, pc, hs⟩ | ⟨id, pc, v, hs⟩ | ⟨pc, hs⟩ | ⟨hs⟩
  case close =>
    cases pc <;> cases hs
    · exact ⟨rfl, .inr ⟨h, rfl⟩, .inl (.refl _)⟩
    · exact ⟨rfl, .inl (.refl _), .inr ⟨h, rfl⟩⟩
    · exact ⟨rfl, .inl (.refl _), .inl (.refl _)⟩
  all_goals leaves [stepGet, stepAdd, stepRet, stepTake, finishGet, failGet, clear, State.setOp,
    State.emit] at hs
  -- which call was made on each semaphore is read off the new state; the equation of a
  -- `tryAcquire` / `pollAcquire` is taken from the context
  all_goals refine ⟨rfl, .inl ?_, .inl ?_⟩
  all_goals simp (disch := assumption) only [Sem.Called.refl, Sem.Called.tryAcquire, Sem.Called.pollAcquire,
    Sem.Called.dropAcquire, Sem.Called.addPermits, Sem.Called.pollDrop]

/-- no step reopens the pool -/
theorem Frame.open_of_open {s s' : State} {i : Nat} (fr : Frame s s' i) (hc : s'.sem.closed = false) :
    s.sem.closed = false := by
  rcases fr.sem with c | ⟨_, rfl⟩
  · exact c.closed ▸ hc
  · cases hc

/-- both semaphores of the unmanaged pool stay well-formed (no free permit while somebody
queues, no queue after close, no duplicate waiter) -/
structure SemsWF (s : State) : Prop where
  sem : s.sem.WF
  sizeSem : s.sizeSem.WF

theorem SemsWF.init (cfg : Cfg) : SemsWF (init cfg) := ⟨Sem.WF.new _, Sem.WF.new _⟩

theorem SemsWF.step {s s' : State} {act : Action} (w : SemsWF s) (hs : step s act = some s') :
    SemsWF s' := by
  cases act with
  | start sp => obtain ⟨x, H, n, rfl⟩ := startOp_eq hs; exact ⟨w.sem, w.sizeSem⟩
  | step i oc =>
    -- each semaphore is only called, or closed
    have fr := stepOp_frame hs
    refine ⟨?_, ?_⟩
    · rcases fr.sem with c | ⟨_, rfl⟩
      · exact c.wf w.sem
      · exact w.sem.close
    · rcases fr.sizeSem with c | ⟨_, rfl⟩
      · exact c.wf w.sizeSem
      · exact w.sizeSem.close

theorem run_semswf (cfg : Cfg) (acts : List Action) : SemsWF (run (init cfg) acts) :=
  run_induction acts (SemsWF.init cfg) (fun _ _ _ => SemsWF.step)

theorem step_cfg {s0 s1 : State} {a : Action} (hst : step s0 a = some s1) : s1.cfg = s0.cfg := by
  cases a with
  | start sp => obtain ⟨x, H, n, rfl⟩ := startOp_eq hst; rfl
  | step i oc => exact (stepOp_frame hst).cfg

theorem run_cfg (s0 : State) (acts : List Action) : (run s0 acts).cfg = s0.cfg :=
  run_induction (P := fun s => s.cfg = s0.cfg) acts rfl (fun _ _ _ h hst => (step_cfg hst).trans h)

end U
end DeadpoolVerif
