/-
The control flow of get(), read off `stepGet` once: where the operation goes and what it logs
(`GetStep`), which semaphore call the step made (`SemCall`), what no step of a get() touches
(`GetFrame`).  `stepGet_spec` ties the three to `stepGet`.
-/
import DeadpoolVerif.Lemmas.Step
import DeadpoolVerif.Lemmas.Queue
import DeadpoolVerif.Lemmas.Sem

namespace DeadpoolVerif

/-- what the running get() holds of the semaphore -/
inductive Hold | nothing | permit | queued
deriving DecidableEq, Repr

def GPc.hold : GPc → Hold
  | .enter | .acquire | .dropUsers _ => .nothing
  | .queued => .queued
  | _ => .permit

def Op.hold : Op → Hold
  | .get _ pc => pc.hold
  | _ => .nothing

def PollRes.hold : PollRes → Hold
  | .ok => .permit
  | .pending => .queued
  | .closed => .nothing

/-- the object as `handOut` passes it to the caller -/
def Obj.bump (o : Obj) : Obj := { o with handouts := o.handouts + 1 }

/-- `GetStep s i t pc oc x es idle out n`: from `pc`, on outcome `oc`, get() `i` becomes `x`, logs
`es` and leaves the idle queue `idle`, the checked-out objects `out` and the next id `n`.  The
state is read for `cfg`, `now`, `nextId`, `idle` and `out` only.  The rules are sound, not
complete: what decides between two exits of the same program counter is kept only where an
invariant needs it (the length of the callback sequences, the empty queue, a zero wait); the
guards on the runtime, on the create and recycle timeouts, on the mutex and on which outcome
pairs with which failure are dropped, so several rules may apply where `stepGet` takes one. -/
inductive GetStep (s : State) (i : Nat) (t : Timeouts) :
    GPc → Outcome → Op → List Ev → List Obj → List Obj → Nat → Prop
  | noRuntime : GetStep s i t .enter .run .done [.result i .noRuntime] s.idle s.out s.nextId
  | enter : GetStep s i t .enter .run (.get t .acquire) [] s.idle s.out s.nextId
  /-- `Semaphore::acquire`, first poll: only a non-zero wait timeout lets it queue -/
  | acquire {pc'} :
      pc' = .pop ∨ (pc' = .queued ∧ t.wait ≠ .zero) ∨
        (∃ r ∈ [.timeoutWait, .closed, .noRuntime], pc' = .dropUsers r) →
      GetStep s i t .acquire .run (.get t pc') [] s.idle s.out s.nextId
  /-- a later poll, the deadline, or the caller giving up -/
  | queued {oc pc'} :
      pc' = .pop ∨ pc' = .queued ∨ (∃ r ∈ [.timeoutWait, .closed, .cancelled], pc' = .dropUsers r) →
      GetStep s i t .queued oc (.get t pc') [] s.idle s.out s.nextId
  | pop {o rest} : popIdle s.cfg.mode s.idle = some (o, rest) →
      GetStep s i t .pop .run (.get t (.recycling 0 o false))
        [.call i (s.cfg.recyclePhase 0).1 (s.cfg.recyclePhase 0).2 o] rest s.out s.nextId
  | popFail : s.idle = [] →
      GetStep s i t .pop .run (.get t (.dropPermit .noRuntime)) [] s.idle s.out s.nextId
  | popCreate : s.idle = [] →
      GetStep s i t .pop .run (.get t (.creating false)) [.createCall i] s.idle s.out s.nextId
  | recycleNext {k o b} : k + 1 < s.cfg.nRecycle →
      GetStep s i t (.recycling k o b) .ok (.get t (.recycling (k + 1) o false))
        [.call i (s.cfg.recyclePhase (k + 1)).1 (s.cfg.recyclePhase (k + 1)).2 o] s.idle s.out s.nextId
  | recycleDone {k o b} : ¬ k + 1 < s.cfg.nRecycle →
      GetStep s i t (.recycling k o b) .ok .done
        [.handout i { o with rc := o.rc + 1, recycled := some s.now }.bump, .result i (.ok o.id)]
        s.idle (s.out ++ [{ o with rc := o.rc + 1, recycled := some s.now }.bump]) s.nextId
  | recycleWait {k o b} :
      GetStep s i t (.recycling k o b) .pending (.get t (.recycling k o true)) [] s.idle s.out s.nextId
  | recycleFail {k o b oc c} : oc ≠ .ok → c ∈ [.retry, .fail .panicked, .fail .cancelled] →
      GetStep s i t (.recycling k o b) oc (.get t (.unreadyLock o c)) [] s.idle s.out s.nextId
  | created {b} :
      GetStep s i t (.creating b) .ok (.get t (.createSize { id := s.nextId, created := s.now })) []
        s.idle s.out (s.nextId + 1)
  | createWait {b} : GetStep s i t (.creating b) .pending (.get t (.creating true)) [] s.idle s.out s.nextId
  | createFail {b oc r} : oc ≠ .ok → r ∈ [.backend, .timeoutCreate, .panicked, .cancelled] →
      GetStep s i t (.creating b) oc (.get t (.dropPermit r)) [] s.idle s.out s.nextId
  | sized {o} : 0 < s.cfg.postC.length →
      GetStep s i t (.createSize o) .run (.get t (.postCreate 0 o false)) [.call i .postC 0 o]
        s.idle s.out s.nextId
  | sizedDone {o} : ¬ 0 < s.cfg.postC.length →
      GetStep s i t (.createSize o) .run .done [.handout i o.bump, .result i (.ok o.id)]
        s.idle (s.out ++ [o.bump]) s.nextId
  | hookNext {k o b} : k + 1 < s.cfg.postC.length →
      GetStep s i t (.postCreate k o b) .ok (.get t (.postCreate (k + 1) o false))
        [.call i .postC (k + 1) o] s.idle s.out s.nextId
  | hookDone {k o b} : ¬ k + 1 < s.cfg.postC.length →
      GetStep s i t (.postCreate k o b) .ok .done [.handout i o.bump, .result i (.ok o.id)]
        s.idle (s.out ++ [o.bump]) s.nextId
  | hookWait {k o b} :
      GetStep s i t (.postCreate k o b) .pending (.get t (.postCreate k o true)) [] s.idle s.out s.nextId
  | hookFail {k o b oc r} : oc ≠ .ok → r ∈ [.postCreateHook, .panicked, .cancelled] →
      GetStep s i t (.postCreate k o b) oc (.get t (.unreadyLock o (.fail r))) [] s.idle s.out s.nextId
  | unready {o c} :
      GetStep s i t (.unreadyLock o c) .run (.get t (.unreadyDetach o c)) [] s.idle s.out s.nextId
  | detached {o c oc pc'} :
      (c = .retry ∧ pc' = .pop) ∨ (∃ r, c = .fail r ∧ pc' = .dropPermit r) ∨ pc' = .dropPermit .panicked →
      GetStep s i t (.unreadyDetach o c) oc (.get t pc') [.detach i o.id, .destroy i o.id]
        s.idle s.out s.nextId
  | dropPermit {r} : GetStep s i t (.dropPermit r) .run (.get t (.dropUsers r)) [] s.idle s.out s.nextId
  | dropUsers {r} : GetStep s i t (.dropUsers r) .run .done [.result i r] s.idle s.out s.nextId

/-- `SemCall i a h h' b`: the step that takes get() `i` from holding `h` to holding `h'` turns
semaphore `a` into `b` -/
inductive SemCall (i : Nat) (a : Sem) : Hold → Hold → Sem → Prop
  | none {h} : SemCall i a h h a
  | tryOk {b} : a.tryAcquire = (b, .ok) → SemCall i a .nothing .permit b
  | poll {h b r} : h ≠ .permit → a.pollAcquire i = (b, r) → SemCall i a h r.hold b
  | drop : SemCall i a .queued .nothing (a.dropAcquire i)
  /-- deadline while queued: a last poll, still pending, then the `Acquire` is dropped -/
  | pollDrop {m} : a.pollAcquire i = (m, .pending) → SemCall i a .queued .nothing (m.dropAcquire i)
  | release : SemCall i a .permit .nothing (a.addPermits 1)

theorem SemCall.closed {i : Nat} {a b : Sem} {h h' : Hold} (c : SemCall i a h h' b) :
    b.closed = a.closed := by
  cases c with
  | none => rfl
  | tryOk hp => exact Sem.tryAcquire_closed_eq hp
  | poll _ hp => exact Sem.pollAcquire_closed_eq hp
  | drop => exact Sem.dropAcquire_closed _ _
  | pollDrop hp => exact (Sem.dropAcquire_closed _ _).trans (Sem.pollAcquire_closed_eq hp)
  | release => rfl

/-- `SemCall.poll` with the hold afterwards as a variable: in a branch the result `r` is concrete
and the hold is `r.hold` only up to unfolding -/
theorem SemCall.poll' {i : Nat} {a b : Sem} {r : PollRes} {h h' : Hold}
    (hp : a.pollAcquire i = (b, r)) (hh : h ≠ .permit) (e : h' = r.hold) : SemCall i a h h' b :=
  e ▸ .poll hh hp

/-- what no step of a get() changes, or changes in one direction only -/
structure GetFrame (s s' : State) : Prop where
  idle : s'.idle.Sublist s.idle
  max : s'.maxSize = s.maxSize
  lock : s'.lock = s.lock
  cfg : s'.cfg = s.cfg
  debt : s'.debt = s.debt
  nid : s.nextId ≤ s'.nextId

theorem GetFrame.tick (s : State) (n : Nat) : GetFrame s { s with now := n } :=
  ⟨.refl _, rfl, rfl, rfl, rfl, Nat.le_refl _⟩

theorem GetFrame.trans {a b c : State} (h : GetFrame a b) (k : GetFrame b c) : GetFrame a c :=
  ⟨k.idle.trans h.idle, k.max.trans h.max, k.lock.trans h.lock, k.cfg.trans h.cfg,
    k.debt.trans h.debt, Nat.le_trans h.nid k.nid⟩

/-- **One step of get().**  What it never touches, where the operation goes, what it logs and
where it leaves the objects, and either it hands out (then it held a permit, which leaves with
the object: it is done and the semaphore stays) or `out` stays and the semaphore call it made is
`SemCall`. -/
theorem stepGet_spec {s s' : State} {i : Nat} {t : Timeouts} {pc : GPc} {oc : Outcome}
    (h : stepGet s i t pc oc = some s') :
    GetFrame s s' ∧ ∃ x es idle out n, After s s' (s.ops.set i x) es idle out n ∧
      GetStep s i t pc oc x es idle out n ∧
      ((x = .done ∧ pc.hold = .permit ∧ s'.sem = s.sem ∧ ∃ o, out = s.out ++ [o]) ∨
       (out = s.out ∧ SemCall i s.sem pc.hold x.hold s'.sem)) := by
  leaves [stepGet, arrivePostCreate] at h
  -- first pass: `idle` shrinks only at the pop, `nextId` grows only at the creation; the new
  -- operation, the events and the places of the objects are read off the branch (a branch that
  -- logs nothing has `es = []`)
  all_goals refine ⟨⟨by first | exact .refl _ | exact (popIdle_mem ‹_›).2, rfl, rfl, rfl, rfl,
    by first | exact Nat.le_refl _ | exact Nat.le_succ _⟩, ?_⟩
  all_goals first
    | refine ⟨_, _, _, _, _, ⟨rfl, rfl, rfl, rfl, rfl, rfl, rfl⟩, ?_, ?_⟩
    | refine ⟨_, [], _, _, _, ⟨rfl, rfl, rfl, rfl, rfl, rfl, (List.append_nil _).symm⟩, ?_, ?_⟩
  -- second pass, two kinds of goal.  The `GetStep` rule of the branch: the indices determine it.
  -- The semaphore: no call, the hand-out, or the call whose result the branch matched on.
  all_goals first
    | (show GetStep _ _ _ _ _ _ _ _ _ _; constructor)
    | exact .inr ⟨rfl, .none⟩
    | exact .inl ⟨rfl, rfl, rfl, _, rfl⟩
    | exact .inr ⟨rfl, .tryOk ‹_›⟩
    | exact .inr ⟨rfl, .poll' ‹_› (by decide) rfl⟩
    | exact .inr ⟨rfl, .pollDrop ‹_›⟩
    | exact .inr ⟨rfl, .drop⟩
    | exact .inr ⟨rfl, .release⟩
  -- third pass, the side conditions of the rules: the condition the branch was split on; the
  -- empty queue behind a failed pop; a concrete outcome that is not `ok`, a concrete result in the
  -- list of its rule, a concrete successor among those of `acquire` / `queued` / `detached`
  -- (`simp`); and for `acquire → queued` the `match` on `t.wait` having fallen through `.zero`,
  -- which `split` records as `t.wait = .zero → False`
  all_goals first
    | assumption
    | exact popIdle_eq_none.mp ‹_›
    | (simp; done)
    | exact .inr (.inl ⟨rfl, fun h => ‹_ → False› h⟩)

namespace GetStep
variable {s : State} {i : Nat} {t : Timeouts} {pc : GPc} {oc : Outcome} {x : Op} {es : List Ev}
  {idle out : List Obj} {n : Nat}

theorem next (st : GetStep s i t pc oc x es idle out n) : x = .done ∨ ∃ pc', x = .get t pc' := by
  cases st <;> first | exact .inl rfl | exact .inr ⟨_, rfl⟩

end GetStep

end DeadpoolVerif
