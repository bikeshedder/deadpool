/-
`Link`: the semaphore's waiter lists and the slots-mutex owner agree with the program
counters of the operations.  One transition lemma per way of touching the semaphore
(`Link.update` and its instances); a get() step goes through the semaphore call it made
(`Link.semCall`), the other operations leave the semaphore alone or release permits.  At the end,
what `Acct` and `Link` together leave when every operation has finished (`Acct.at_rest`).
-/
import DeadpoolVerif.Lemmas.Acct
import DeadpoolVerif.Lemmas.GetStep

namespace DeadpoolVerif

/-- the op is suspended in `Semaphore::acquire` -/
def Op.isQ : Op → Bool
  | .get _ .queued => true
  | _ => false

theorem Op.eq_of_isQ {op : Op} (h : op.isQ = true) : ∃ t, op = .get t .queued := by
  unfold Op.isQ at h
  split at h
  · exact ⟨_, rfl⟩
  · cases h

theorem Op.isQ_iff {op : Op} : op.isQ = true ↔ op.hold = .queued := by
  cases op with
  | get t pc => cases pc <;> simp [Op.isQ, Op.hold, GPc.hold]
  | _ => simp [Op.isQ, Op.hold]

theorem Op.isQ_false {op : Op} (h : op.hold ≠ .queued) : op.isQ = false := by
  rw [← Bool.not_eq_true, Op.isQ_iff]; exact h

/-- the op is inside the slots-mutex region of `resize` -/
def Op.holdsLock : Op → Bool
  | .resize _ _ .shrink _ | .resize _ _ .grow _ => true
  | _ => false

structure Link (s : State) : Prop where
  wf : s.sem.WF
  /-- every registered waiter is an operation suspended in `acquire` -/
  waiters : ∀ j ∈ s.sem.waiting, ∃ op, s.ops[j]? = some op ∧ op.isQ = true
  /-- every operation suspended in `acquire` is registered, unless the pool was closed
  (then it has been woken and will fail with `Closed` at its next poll) -/
  queued : ∀ j op, s.ops[j]? = some op → op.isQ = true → j ∈ s.sem.waiting ∨ s.sem.closed = true
  /-- the mutex owner recorded in `lock` is exactly the resize inside its critical region -/
  lockOwner : ∀ j, s.lock = some j ↔ ∃ op, s.ops[j]? = some op ∧ op.holdsLock = true

theorem Link.init (cfg : Cfg) : Link (init cfg) := by
  refine ⟨Sem.WF.new _, ?_, ?_, ?_⟩ <;> simp [DeadpoolVerif.init, Sem.new, Sem.waiting]

/-- the general transition lemma: operation `i` is replaced by `x` -/
theorem Link.update {s s' : State} {i : Nat} {x y : Op} (l : Link s) (h : s.ops[i]? = some y)
    (hops : s'.ops = s.ops.set i x) (hwf : s'.sem.WF)
    (hsub : ∀ j, j ≠ i → j ∈ s'.sem.waiting → j ∈ s.sem.waiting)
    (hsup : ∀ j, j ≠ i → j ∈ s.sem.waiting → j ∈ s'.sem.waiting ∨ s'.sem.closed = true)
    (hi : i ∈ s'.sem.waiting → x.isQ = true)
    (hq : x.isQ = true → i ∈ s'.sem.waiting ∨ s'.sem.closed = true)
    (hc : s.sem.closed = true → s'.sem.closed = true)
    (hlock : (s'.lock = s.lock ∧ x.holdsLock = y.holdsLock) ∨
      (y.holdsLock = false ∧ x.holdsLock = true ∧ s.lock = none ∧ s'.lock = some i) ∨
      (y.holdsLock = true ∧ x.holdsLock = false ∧ s'.lock = none)) : Link s' := by
  have hself := getElem?_set_self' (x := x) h
  have hne : ∀ j, j ≠ i → (s.ops.set i x)[j]? = s.ops[j]? := fun j e => List.getElem?_set_ne (Ne.symm e)
  refine ⟨hwf, fun j => ?_, fun j => ?_, fun j => ?_⟩ <;> rw [hops]
  · by_cases e : j = i
    · subst e; exact fun hj => ⟨x, hself, hi hj⟩
    · rw [hne j e]; exact fun hj => l.waiters j (hsub j e hj)
  · by_cases e : j = i
    · subst e; rw [hself]; rintro op ⟨⟩ hop; exact hq hop
    · rw [hne j e]
      exact fun op hj hop => (l.queued j op hj hop).elim (hsup j e) fun h1 => .inr (hc h1)
  · -- the owner before is `i` iff `y` is inside the region; the entries other than `i` are untouched
    have hy : s.lock = some i ↔ y.holdsLock = true := by rw [l.lockOwner i, h]; simp
    by_cases e : j = i
    · subst e
      rw [hself]
      simp only [Option.some.injEq, exists_eq_left']
      rcases hlock with ⟨h1, h2⟩ | ⟨-, h2, -, h4⟩ | ⟨-, h2, h3⟩
      · rw [h1, h2, hy]
      · simp [h2, h4]
      · simp [h2, h3]
    · rw [hne j e, ← l.lockOwner j]
      rcases hlock with ⟨h1, -⟩ | ⟨-, -, h3, h4⟩ | ⟨h1, -, h3⟩
      · rw [h1]
      · simp [h3, h4, Ne.symm e]
      · simp [h3, hy.mpr h1, Ne.symm e]

theorem Link.isQ_of_waiting {s : State} (l : Link s) {i : Nat} {y : Op} (h : s.ops[i]? = some y)
    (hw : i ∈ s.sem.waiting) : y.isQ = true := by
  obtain ⟨op, h1, h2⟩ := l.waiters i hw
  cases h.symm.trans h1
  exact h2

theorem Link.not_waiting {s : State} (l : Link s) {i : Nat} {y : Op} (h : s.ops[i]? = some y)
    (hy : y.isQ = false) : i ∉ s.sem.waiting := fun hw => by
  rw [l.isQ_of_waiting h hw] at hy; cases hy

/-- the step leaves the waiter lists as they are (it does not touch the semaphore, or releases or
forgets permits), `y` was not queued and `x` is not; the mutex moves as in `Link.update` -/
theorem Link.kept {s s' : State} {i : Nat} {x y : Op} (l : Link s) (h : s.ops[i]? = some y)
    (hops : s'.ops = s.ops.set i x) (hwf : s'.sem.WF)
    (hw : ∀ j, j ∈ s'.sem.waiting ↔ j ∈ s.sem.waiting) (hc : s'.sem.closed = s.sem.closed)
    (hy : y.isQ = false) (hx : x.isQ = false)
    (hlock : (s'.lock = s.lock ∧ x.holdsLock = y.holdsLock) ∨
      (y.holdsLock = false ∧ x.holdsLock = true ∧ s.lock = none ∧ s'.lock = some i) ∨
      (y.holdsLock = true ∧ x.holdsLock = false ∧ s'.lock = none)) : Link s' :=
  l.update h hops hwf (fun j _ hj => (hw j).mp hj) (fun j _ hj => .inl ((hw j).mpr hj))
    (fun hi => absurd ((hw i).mp hi) (l.not_waiting h hy)) (fun hq => by rw [hx] at hq; cases hq)
    (fun hcl => hc ▸ hcl) hlock

theorem Link.append {s s' : State} {x : Op} (l : Link s)
    (hops : s'.ops = s.ops ++ [x]) (hsem : s'.sem = s.sem) (hlock : s'.lock = s.lock)
    (hx : x.isQ = false) (hl : x.holdsLock = false) : Link s' := by
  have old : ∀ {j : Nat} {op : Op}, s.ops[j]? = some op → (s.ops ++ [x])[j]? = some op := fun h =>
    (List.getElem?_append_left (lt_of_getElem? h)).trans h
  refine ⟨hsem ▸ l.wf, fun j hj => ?_, fun j op hj => ?_, fun j => ⟨fun hj => ?_, ?_⟩⟩
  · obtain ⟨op, h1, h2⟩ := l.waiters j (hsem ▸ hj)
    exact ⟨op, hops ▸ old h1, h2⟩
  · exact forall_append_single
      (fun j u hu => hsem ▸ l.queued j u hu) (fun h => by rw [hx] at h; cases h) (fun _ _ _ h => h)
      j op (hops ▸ hj)
  · obtain ⟨op, h1, h2⟩ := (l.lockOwner j).mp (hlock ▸ hj)
    exact ⟨op, hops ▸ old h1, h2⟩
  · rintro ⟨op, h1, h2⟩
    exact forall_append_single (P := fun j op => op.holdsLock = true → s'.lock = some j)
      (fun j u hu hl => hlock ▸ (l.lockOwner j).mpr ⟨u, hu, hl⟩) (fun h => by rw [hl] at h; cases h)
      (fun _ _ _ h => h) j op (hops ▸ h1) h2

/-- A semaphore call of get() `i` keeps the waiter lists in step with what the get() holds: if `i`
was registered only while queued, and registered or woken by `close` whenever queued, that is so
afterwards; nobody else is registered or dropped; the flag and well-formedness stay. -/
theorem SemCall.waiters {i : Nat} {a b : Sem} {h h' : Hold} (c : SemCall i a h h' b) (w : a.WF)
    (h1 : i ∈ a.waiting → h = .queued) (h2 : h = .queued → i ∈ a.waiting ∨ a.closed = true) :
    b.WF ∧ b.closed = a.closed ∧ (∀ j, j ≠ i → (j ∈ b.waiting ↔ j ∈ a.waiting)) ∧
    (i ∈ b.waiting → h' = .queued) ∧ (h' = .queued → i ∈ b.waiting ∨ b.closed = true) := by
  cases c with
  | none => exact ⟨w, rfl, fun _ _ => .rfl, h1, h2⟩
  | tryOk hp =>
    obtain ⟨w', e, cl⟩ := w.tryAcquire hp
    exact ⟨w', cl, fun _ _ => e ▸ .rfl, fun hi => (nomatch h1 (e ▸ hi)), nofun⟩
  | @poll _ _ r _ hp =>
    obtain ⟨w', mem, cl, pend, -⟩ := w.pollAcquire hp
    refine ⟨w', cl, fun j e => by rw [mem j]; simp [e], fun hi => ?_, fun hq => ?_⟩
    · obtain ⟨-, e⟩ | ⟨rfl, -⟩ := (mem i).mp hi
      · exact absurd rfl e
      · rfl
    · cases r <;> first | exact .inl (Sem.mem_waiting.mpr (.inl (pend rfl).1)) | cases hq
  | drop =>
    obtain ⟨w', mem, cl⟩ := w.dropAcquire i
    exact ⟨w', cl, fun j e => by rw [mem j]; simp [e], fun hi => absurd rfl ((mem i).mp hi).2, nofun⟩
  | pollDrop hp =>
    obtain ⟨w1, mem1, cl1, -⟩ := w.pollAcquire hp
    obtain ⟨w', mem, cl⟩ := w1.dropAcquire i
    exact ⟨w', cl.trans cl1, fun j e => by rw [mem j, mem1 j]; simp [e],
      fun hi => absurd rfl ((mem i).mp hi).2, nofun⟩
  | release =>
    exact ⟨w.addPermits 1, rfl, fun j _ => Sem.mem_waiting_addPermits _ _ _,
      fun hi => (nomatch h1 ((Sem.mem_waiting_addPermits _ _ _).mp hi)), nofun⟩

theorem Link.semCall {s s' : State} {i : Nat} {x y : Op} (l : Link s) (h : s.ops[i]? = some y)
    (hops : s'.ops = s.ops.set i x) (c : SemCall i s.sem y.hold x.hold s'.sem)
    (hlock : s'.lock = s.lock) (hl : x.holdsLock = y.holdsLock) : Link s' := by
  obtain ⟨wf', cl, oth, hi, hq⟩ := c.waiters l.wf
    (fun hw => Op.isQ_iff.mp (l.isQ_of_waiting h hw))
    (fun hy => l.queued i y h (Op.isQ_iff.mpr hy))
  exact l.update h hops wf' (fun j e => (oth j e).mp) (fun j e hj => .inl ((oth j e).mpr hj))
    (fun hw => Op.isQ_iff.mpr (hi hw)) (fun hx => hq (Op.isQ_iff.mp hx)) (fun hc => cl ▸ hc)
    (.inl ⟨hlock, hl⟩)

theorem stepGet_link {s s' : State} {i : Nat} {t : Timeouts} {pc : GPc} {oc : Outcome}
    (h : s.ops[i]? = some (.get t pc)) (l : Link s)
    (hs : stepGet s i t pc oc = some s') : Link s' := by
  obtain ⟨fr, x, es, idle, out, n, a, st, hc⟩ := stepGet_spec hs
  have hops := a.ops
  have hl : x.holdsLock = (Op.get t pc).holdsLock := by
    rcases st.next with rfl | ⟨pc', rfl⟩ <;> rfl
  rcases hc with ⟨rfl, hp, hsem, -⟩ | ⟨-, c⟩
  · -- the hand-out: the semaphore stays, and the get() held a permit, so it was not queued
    exact l.kept h hops (hsem ▸ l.wf) (fun j => by rw [hsem]) (by rw [hsem])
      (Op.isQ_false (by simp [Op.hold, hp])) rfl (.inl ⟨fr.lock, hl⟩)
  · exact l.semCall h hops c fr.lock hl

/-- a leaf of an operation other than get(): it leaves the semaphore alone, or releases permits -/
macro "link_leaf" l:ident h:ident : tactic => `(tactic| first
  | exact Link.kept $l $h rfl ($l).wf (fun _ => Iff.rfl) rfl rfl rfl (.inl ⟨rfl, rfl⟩)
  | exact Link.kept $l $h rfl (($l).wf.addPermits _) (Sem.mem_waiting_addPermits _ _) rfl rfl rfl
      (.inl ⟨rfl, rfl⟩))

/-- the resize leaves its critical region -/
theorem Link.unlock {s s' : State} {i : Nat} {x y : Op} (l : Link s) (h : s.ops[i]? = some y)
    (hops : s'.ops = s.ops.set i x) (hwf : s'.sem.WF)
    (hw : ∀ j, j ∈ s'.sem.waiting ↔ j ∈ s.sem.waiting) (hc : s'.sem.closed = s.sem.closed)
    (hy : y.isQ = false) (hx : x.isQ = false)
    (hyl : y.holdsLock = true) (hxl : x.holdsLock = false) (hlock : s'.lock = none) : Link s' :=
  l.kept h hops hwf hw hc hy hx (.inr (.inr ⟨hyl, hxl, hlock⟩))

theorem stepResize_link {s s' : State} {i n old : Nat} {isClose : Bool} {pc : ZPc}
    (h : s.ops[i]? = some (.resize n isClose pc old)) (l : Link s)
    (hs : stepResize s i n isClose pc old = some s') : Link s' := by
  cases pc
  case enter => leaves [stepResize] at hs; link_leaf l h
  case lock =>
    leaves [stepResize] at hs
    · -- close(): the semaphore is closed inside the critical section, whoever queued is woken
      have hw : ∀ j, j ∈ s.sem.close.waiting → j ∈ s.sem.waiting := fun j hj =>
        Sem.mem_waiting.mpr (.inr ((Sem.mem_waiting_close s.sem j).mp hj))
      exact l.update h rfl l.wf.close (fun j _ => hw j) (fun _ _ _ => .inr rfl)
        (fun hi => absurd (hw i hi) (l.not_waiting h rfl)) (fun hq => nomatch hq) (fun _ => rfl)
        (.inl ⟨rfl, rfl⟩)
    · link_leaf l h
    -- the region is entered (shrink, grow), or there is nothing to do
    · exact l.kept h rfl l.wf (fun _ => .rfl) rfl rfl rfl (.inr (.inl ⟨rfl, rfl, ‹_›, rfl⟩))
    · exact l.kept h rfl l.wf (fun _ => .rfl) rfl rfl rfl (.inr (.inl ⟨rfl, rfl, ‹_›, rfl⟩))
    · exact l.kept h rfl l.wf (fun _ => .rfl) rfl rfl rfl (.inl ⟨Eq.symm ‹_›, rfl⟩)
  case shrink =>
    -- a permit is forgotten and the operation stays where it is, or the region is left
    have forgot : ∀ {sem : Sem} {s1 : State}, s.sem.tryAcquire = (sem, .ok) → s1.ops = s.ops →
        s1.sem = sem → s1.lock = s.lock → Link s1 := fun hp ho hsem hlk =>
      have ht := l.wf.tryAcquire hp
      l.kept h (ho.trans (set_self h).symm) (hsem ▸ ht.1) (fun _ => hsem ▸ ht.2.1 ▸ .rfl)
        (hsem ▸ ht.2.2) rfl rfl (.inl ⟨hlk, rfl⟩)
    leaves [stepResize] at hs
    · exact forgot ‹_› rfl rfl rfl
    · exact forgot ‹_› rfl rfl rfl
    all_goals exact l.unlock h rfl l.wf (fun _ => Iff.rfl) rfl rfl rfl rfl rfl rfl
  case grow =>
    leaves [stepResize] at hs
    exact l.unlock h rfl (l.wf.addPermits _) (Sem.mem_waiting_addPermits _ _) rfl rfl rfl rfl rfl rfl

theorem Link.start {s : State} {sp : Spec} {x : Op} (l : Link s) (hi : Op.init sp x) :
    Link (s.start x) := by
  have : x.isQ = false ∧ x.holdsLock = false := by
    cases sp
    case ret | take => obtain ⟨_, _, rfl⟩ := hi; exact ⟨rfl, rfl⟩
    all_goals cases hi; exact ⟨rfl, rfl⟩
  exact l.append rfl rfl rfl this.1 this.2

theorem Link.tick {s : State} (l : Link s) : Link s.tick := ⟨l.wf, l.waiters, l.queued, l.lockOwner⟩

theorem Link.step {s s' : State} {act : Action} (l : Link s) (hs : step s act = some s') :
    Link s' := by
  cases step_cases hs with
  | start _ hi => exact (l.start hi).tick
  | op _ _ h f =>
    refine Link.tick ?_
    cases f with
    | get hs => exact stepGet_link h l hs
    | ret hs => leaves [stepRet] at hs; all_goals link_leaf l h
    | retPanic hs | takePanic hs => cases hs; link_leaf l h
    | take hs => leaves [stepTake] at hs; all_goals link_leaf l h
    | resize hs => exact stepResize_link h l hs
    | retain hs => leaves [stepRetain] at hs; link_leaf l h
    | status hs => leaves [stepStatus] at hs; link_leaf l h

theorem run_link (cfg : Cfg) (acts : List Action) : Link (run (init cfg) acts) :=
  run_induction acts (Link.init cfg) fun _ _ _ => Link.step

def State.allDone (s : State) : Prop := ∀ op ∈ s.ops, op = Op.done

theorem State.allDone.sumW {s : State} (h : s.allDone) {f : Op → Nat} (hf : f .done = 0) :
    sumW f s.ops = 0 :=
  sumW_eq_zero_iff.mpr fun a ha => h a ha ▸ hf

/-- when every operation has finished all tokens are free permits or with the objects checked out,
nobody waits, and the counters count the objects -/
theorem Acct.at_rest {s : State} (a : Acct s) (l : Link s) (hd : s.allDone) :
    s.sem.permits + s.out.length = s.maxSize + s.debt ∧ s.sem.assigned = [] ∧ s.sem.queue = [] ∧
    s.users = s.out.length ∧ s.size = s.idle.length + s.out.length := by
  have w : s.sem.waiting = [] := List.eq_nil_iff_forall_not_mem.mpr fun j hj => by
    obtain ⟨op, h1, h2⟩ := l.waiters j hj
    cases hd op (List.mem_of_getElem? h1)
    cases h2
  obtain ⟨wq, wa⟩ := List.append_eq_nil_iff.mp w
  have t := a.tok
  have z := a.siz
  have u := a.usr
  rw [hd.sumW rfl] at t z u
  rw [Sem.tokens, wa] at t
  exact ⟨t, wa, wq, u, z⟩

end DeadpoolVerif
