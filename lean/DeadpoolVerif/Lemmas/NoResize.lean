/-
Without resize / close operations `maxSize` keeps its configured value, the ghost `debt` stays 0
and the pool stays open: no operation other than a resize writes these (`Fires.frame`).
-/
import DeadpoolVerif.Lemmas.Frame

namespace DeadpoolVerif

/-- no resize / close operation was ever started -/
structure NoRz (s : State) : Prop where
  rz : sumW Op.rzW s.ops = 0
  debt : s.debt = 0
  max : s.maxSize = s.cfg.maxSize
  closed : s.sem.closed = false

def noResize (acts : List Action) : Prop := ∀ a ∈ acts, a.isResize = false

theorem NoRz.step {s s' : State} {a : Action} (k : NoRz s) (hr : a.isResize = false)
    (hs : step s a = some s') : NoRz s' := by
  cases step_cases hs with
  | @start sp x hi =>
    refine ⟨?_, k.debt, k.max, k.closed⟩
    have : x.rzW = 0 := by
      cases sp
      case resize | close => cases hr
      all_goals first | (obtain ⟨_, _, rfl⟩ := hi; rfl) | (cases hi; rfl)
    show sumW Op.rzW (s.ops ++ [x]) = 0
    rw [sumW_append, k.rz, sumW_cons, this]; rfl
  | op y s1 hy f =>
    -- no resize is in flight, so `y` is not one
    have hy0 : y.rzW = 0 := sumW_eq_zero_iff.mp k.rz y (List.mem_of_getElem? hy)
    have hl : y.atLock = false := by cases y <;> first | rfl | cases hy0
    have e := f.frame hy
    obtain ⟨x, hx, hrz⟩ := e.ops
    refine ⟨?_, Nat.le_zero.mp (k.debt ▸ e.debt hl),
      (e.max hl).trans (k.max.trans (congrArg _ e.cfg).symm), (e.closed hl).trans k.closed⟩
    show sumW Op.rzW s1.ops = 0
    rw [hx]
    exact sumW_eq_zero_iff.mpr (forall_mem_set (sumW_eq_zero_iff.mp k.rz) (Nat.le_zero.mp (hy0 ▸ hrz)))

theorem run_norz (cfg : Cfg) (acts : List Action) (h : noResize acts) :
    NoRz (run (init cfg) acts) :=
  run_induction_on h ⟨rfl, rfl, rfl, rfl⟩ fun _ _ _ k hr hs => k.step hr hs

end DeadpoolVerif
