/-
Invariants of a single get() that follow from its control flow (`GetStep`) alone: which result
it can be about to report, that a zero wait timeout never queues, that `Timeout(Recycle)` does
not occur.
-/
import DeadpoolVerif.Lemmas.Log

namespace DeadpoolVerif

/-- **Invariants of one operation.**  What holds of a get() at its start and across `GetStep`,
and of every operation that is not a get(), holds of every operation in every reachable state. -/
theorem ops_forall_of_getStep (P : Op → Prop) (hstart : ∀ t, P (.get t .enter))
    (hget : ∀ {s i t pc oc x es idle out n}, GetStep s i t pc oc x es idle out n → P (.get t pc) → P x)
    (hother : ∀ x, x.isGet = false → P x) (cfg : Cfg) (acts : List Action) :
    ∀ op ∈ (run (init cfg) acts).ops, P op := by
  refine run_induction (P := fun s => ∀ op ∈ s.ops, P op) acts (by simp [init]) ?_
  intro s a s' h hs
  cases step_cases hs with
  | start _ hi =>
    refine forall_mem_append_single h ?_
    rcases hi.isGet with ⟨t, rfl⟩ | hg
    · exact hstart t
    · exact hother _ hg
  | op _ s1 hy f =>
    show ∀ op ∈ s1.ops, P op
    rcases f.get_or_nonget with ⟨t, pc, rfl, hg⟩ | hng
    · obtain ⟨-, x, _, _, _, _, a, st, -⟩ := stepGet_spec hg
      rw [a.ops]
      exact forall_mem_set h (hget st (h _ (List.mem_of_getElem? hy)))
    · obtain ⟨-, x, es, hx, -, hxg, -⟩ := f.nonget hy hng
      rw [hx]
      exact forall_mem_set h (hother _ hxg)

/-- which result a get() can end with at which point: the program counters that carry a
result carry only the documented one for their cause -/
def resultCause : Op → Prop
  | .get _ (.unreadyLock _ (.fail r)) | .get _ (.unreadyDetach _ (.fail r)) =>
      r = .panicked ∨ r = .cancelled ∨ r = .postCreateHook
  | .get _ (.dropPermit r) =>
      r = .panicked ∨ r = .cancelled ∨ r = .postCreateHook ∨ r = .backend ∨ r = .timeoutCreate ∨
      r = .noRuntime
  | .get _ (.dropUsers r) =>
      r = .panicked ∨ r = .cancelled ∨ r = .postCreateHook ∨ r = .backend ∨ r = .timeoutCreate ∨
      r = .noRuntime ∨ r = .timeoutWait ∨ r = .closed
  | _ => True

variable {s : State} {i : Nat} {t : Timeouts} {pc : GPc} {oc : Outcome} {x : Op} {es : List Ev}
  {idle out : List Obj} {n : Nat}

theorem GetStep.resultCause_next (st : GetStep s i t pc oc x es idle out n)
    (h : resultCause (.get t pc)) : resultCause x := by
  cases st with
  | recycleFail _ hr | hookFail _ hr =>
    simp only [List.mem_cons, List.not_mem_nil, or_false] at hr
    rcases hr with rfl | rfl | rfl <;> simp [resultCause]
  | createFail _ hr =>
    simp only [List.mem_cons, List.not_mem_nil, or_false] at hr
    rcases hr with rfl | rfl | rfl | rfl <;> simp [resultCause]
  | acquire hp =>
    rcases hp with rfl | ⟨rfl, -⟩ | ⟨r, hr, rfl⟩ <;> try trivial
    simp only [List.mem_cons, List.not_mem_nil, or_false] at hr
    rcases hr with rfl | rfl | rfl <;> simp [resultCause]
  | queued hp =>
    rcases hp with rfl | rfl | ⟨r, hr, rfl⟩ <;> try trivial
    simp only [List.mem_cons, List.not_mem_nil, or_false] at hr
    rcases hr with rfl | rfl | rfl <;> simp [resultCause]
  | popFail => simp [resultCause]
  -- from here on the result is carried along
  | unready => rename_i c; cases c <;> exact h
  | detached hp =>
    rcases hp with ⟨rfl, rfl⟩ | ⟨r, rfl, rfl⟩ | rfl
    · trivial
    · simp only [resultCause]; rcases h with rfl | rfl | rfl <;> simp
    · simp [resultCause]
  | dropPermit =>
    simp only [resultCause]
    rcases h with rfl | rfl | rfl | rfl | rfl | rfl <;> simp
  | _ => trivial

/-- a get with a zero wait timeout is never suspended waiting for a slot -/
def zeroWaitOk : Op → Prop
  | .get t .queued => t.wait ≠ .zero
  | _ => True

theorem GetStep.zeroWaitOk_next (st : GetStep s i t pc oc x es idle out n)
    (h : zeroWaitOk (.get t pc)) : zeroWaitOk x := by
  cases st with
  | acquire hp => rcases hp with rfl | ⟨rfl, hz⟩ | ⟨r, -, rfl⟩ <;> trivial
  | queued hp => rcases hp with rfl | rfl | ⟨r, -, rfl⟩ <;> trivial
  | detached hp => rcases hp with ⟨-, rfl⟩ | ⟨r, -, rfl⟩ | rfl <;> trivial
  | _ => trivial

/-- `Timeout(Recycle)` is never produced -/
def noTimeoutRecycle : Op → Prop
  | .get _ (.unreadyLock _ (.fail r)) | .get _ (.unreadyDetach _ (.fail r))
  | .get _ (.dropPermit r) | .get _ (.dropUsers r) => r ≠ .timeoutRecycle
  | _ => True

theorem resultCause.noTimeoutRecycle {x : Op} (h : resultCause x) : noTimeoutRecycle x := by
  cases x with
  | get t pc =>
    cases pc with
    | unreadyLock o c | unreadyDetach o c =>
      cases c with
      | retry => trivial
      | fail r => rintro rfl; simp [resultCause] at h
    | dropPermit r | dropUsers r => rintro rfl; simp [resultCause] at h
    | _ => trivial
  | _ => trivial

/-- in every reachable state every failing get() is about to report a documented result -/
theorem run_resultCause (cfg : Cfg) (acts : List Action) :
    ∀ op ∈ (run (init cfg) acts).ops, resultCause op :=
  ops_forall_of_getStep _ (fun _ => trivial) GetStep.resultCause_next
    (fun x hx => by cases x <;> trivial) cfg acts

end DeadpoolVerif
