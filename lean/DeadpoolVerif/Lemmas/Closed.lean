/-
`ClosedInv`: what is true of a closed managed pool in *every* reachable state, not only at
rest: `max_size` is 0, the idle queue is empty and nobody is inside the critical section of
`resize`.  `close()` establishes it in one critical section; afterwards `resize` does nothing
(it checks `is_closed()` under the mutex) and `return_object` takes its discard branch
(`size ≥ 1 > 0 = max_size`), so nothing can ever be queued again.
-/
import DeadpoolVerif.Lemmas.Frame
import DeadpoolVerif.Lemmas.Acct

namespace DeadpoolVerif

/-- the closed flag is never reset: `close` sets it, a `resize` that finds it set does nothing,
and no other step touches it -/
theorem step_closed_mono {s s' : State} {a : Action} (h : step s a = some s')
    (hc : s.sem.closed = true) : s'.sem.closed = true := by
  cases step_cases h with
  | start => exact hc
  | op _ s1 hy f =>
    show s1.sem.closed = true
    cases f.ctrl hy with
    | framed hl e => exact (e.closed hl).trans hc
    | close _ e => rw [e]; rfl
    | lockClosed _ _ e => rw [e]; exact hc
    | lockOpen ho => cases ho.symm.trans hc

/-- what `close()` leaves for good: no capacity, nothing idle, the mutex free -/
structure ClosedInv (s : State) : Prop where
  max : s.sem.closed = true → s.maxSize = 0
  idle : s.sem.closed = true → s.idle = []
  nolock : s.sem.closed = true → s.lock = none

/-- an object on its way back to a closed pool finds `size ≥ 1 > 0 = max_size`: it is discarded -/
theorem ClosedInv.surplus {s : State} (k : ClosedInv s) (a : Acct s) (hc : s.sem.closed = true)
    {i : Nat} {o : Obj} (hy : s.ops[i]? = some (.ret .lock o)) : ¬ s.size ≤ s.maxSize := by
  have : 1 ≤ sumW Op.sizeW s.ops := sumW_mem_le Op.sizeW hy
  have := a.siz
  have := k.max hc
  omega

theorem ClosedInv.step {s s' : State} {a : Action} (k : ClosedInv s) (a0 : Acct s)
    (h : step s a = some s') : ClosedInv s' := by
  cases step_cases h with
  | start => exact ⟨k.max, k.idle, k.nolock⟩
  | op _ s1 hy f =>
    suffices g : ClosedInv s1 from ⟨g.max, g.idle, g.nolock⟩
    cases f.ctrl hy with
    | framed hl e =>
      -- the flag is untouched, so the pool was closed before
      have hc0 : s1.sem.closed = true → s.sem.closed = true := ((e.closed hl).symm.trans ·)
      refine ⟨fun hc => (e.max hl).trans (k.max (hc0 hc)), fun hc => ?_, fun hc => ?_⟩
      · rcases e.idle with hi | ⟨o, rfl, hsz⟩
        · rw [k.idle (hc0 hc)] at hi
          exact List.eq_nil_of_length_eq_zero (Nat.le_zero.mp hi)
        · exact absurd hsz (k.surplus a0 (hc0 hc) hy)
      · rcases e.lock hl with hk | ⟨_, hk⟩
        · exact hk.trans (k.nolock (hc0 hc))
        · exact hk
    | close hk e => subst e; exact ⟨fun _ => rfl, fun _ => rfl, fun _ => hk⟩
    | lockClosed hc _ e => subst e; exact ⟨fun _ => k.max hc, fun _ => k.idle hc, fun _ => k.nolock hc⟩
    | lockOpen hc e =>
      have ho : s1.sem.closed ≠ true := by rw [e.sem, hc]; nofun
      exact ⟨fun h => absurd h ho, fun h => absurd h ho, fun h => absurd h ho⟩

theorem run_closedInv (cfg : Cfg) (acts : List Action) : ClosedInv (run (init cfg) acts) :=
  (run_induction (P := fun s => Acct s ∧ ClosedInv s) acts ⟨Acct.init cfg, nofun, nofun, nofun⟩
    fun _ _ _ h hs => ⟨Acct.step h.1 hs, h.2.step h.1 hs⟩).2

end DeadpoolVerif
