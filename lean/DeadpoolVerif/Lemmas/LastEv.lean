/-
Trace-level bookkeeping for C04: while a get() is inside a callback, the last event it has
logged is the call of that callback; and every hand-out event in the log is immediately
preceded - among the events of the same get() - by the call of the *last* check of the
sequence (or by the creation, if there is no post_create hook).
-/
import DeadpoolVerif.Lemmas.Log

namespace DeadpoolVerif

/-- the sub-log of an operation read from the event `prev` on: every hand-out to `i` stands right
after its cause -/
def caused (c : Cfg) (i : Nat) : Option Ev → List Ev → Prop
  | _, [] => True
  | prev, e :: l =>
    (∀ o', e = .handout i o' → ∃ p, prev = some p ∧ HandoutCause c i p o') ∧ caused c i (some e) l

theorem caused_append {c : Cfg} {i : Nat} {prev : Option Ev} {l es : List Ev} :
    caused c i prev (l ++ es) ↔ caused c i prev l ∧ caused c i (l.getLast?.or prev) es := by
  induction l generalizing prev with
  | nil => simp [caused]
  | cons e l ih =>
    rw [List.cons_append, caused, caused, ih, and_assoc, List.getLast?_cons]
    cases l.getLast? <;> rfl

theorem caused_of_noHo {c : Cfg} {i : Nat} {es : List Ev} (h : noHo es) (prev : Option Ev) :
    caused c i prev es := by
  induction es generalizing prev with
  | nil => trivial
  | cons e es ih =>
    exact ⟨fun o' he => (nomatch he ▸ h e List.mem_cons_self),
      ih (fun e he => h e (List.mem_cons_of_mem _ he)) _⟩

/-- what stands before a hand-out in a sub-log that is `caused` -/
theorem caused_split {c : Cfg} {i : Nat} {l1 l2 : List Ev} {o' : Obj}
    (h : caused c i none (l1 ++ Ev.handout i o' :: l2)) :
    ∃ l0 e, l1 = l0 ++ [e] ∧ HandoutCause c i e o' := by
  obtain ⟨p, hp, hc⟩ := (caused_append.mp h).2.1 o' rfl
  rw [Option.or_none] at hp
  exact ⟨_, p, (List.getLast?_eq_some_iff.mp hp).choose_spec, hc⟩

/-- C04's trace invariant: `last` - an operation inside a callback has logged the call of that
callback last; `hand` - every hand-out in an operation's sub-log stands right after its cause -/
structure Tr (s : State) : Prop where
  last : ∀ i op e, s.ops[i]? = some op → op.lastEv s.cfg i = some e →
    (evsOf i s.log).getLast? = some e
  hand : ∀ i, caused s.cfg i none (evsOf i s.log)

theorem Tr.init (cfg : Cfg) : Tr (init cfg) :=
  ⟨fun i op e h => by simp [DeadpoolVerif.init] at h, fun _ => trivial⟩

/-- an operation is inside a callback after a move only if the move has just logged the call,
or it was there before and the move logged nothing -/
theorem Move.last {s : State} {i : Nat} {y x : Op} {oc : Outcome} {es : List Ev}
    {idle out : List Obj} {n : Nat} (m : Move s i y oc x es idle out n) :
    ∀ e, x.lastEv s.cfg i = some e → es.getLast? = some e ∨ es = [] ∧ y.lastEv s.cfg i = some e := by
  cases m with
  | stay _ _ _ _ last => exact last
  | pop _ _ => exact fun e he => .inl (by cases he; rfl)
  | new hy => subst hy; exact fun e he => .inr ⟨rfl, he⟩
  | gone _ _ _ hl _ _ _ | drain _ _ _ hl _ _ _ => exact fun e he => by rw [hl] at he; cases he
  | _ => exact nofun

theorem Tr.eff {s s' : State} {j : Nat} {y : Op} {oc : Outcome} (tr : Tr s)
    (hy : s.ops[j]? = some y) (ef : Eff s s' j y oc) : Tr s' := by
  obtain ⟨x, es, _, _, _, a, m⟩ := ef
  have other : ∀ i, i ≠ j → evsOf i s'.log = evsOf i s.log := fun i hij => by
    rw [a.log, evsOf_append, evsOf_other m.own hij, List.append_nil]
  have hE : evsOf j s'.log = evsOf j s.log ++ es := by
    rw [a.log, evsOf_append, evsOf_own m.own]
  refine ⟨fun i op e hop he => ?_, fun i => ?_⟩
  · rw [a.cfg] at he
    by_cases hij : i = j
    · subst hij
      rw [a.ops, getElem?_set_self' hy] at hop
      cases hop
      rw [hE]
      rcases m.last e he with h1 | ⟨rfl, h2⟩
      · rw [List.getLast?_append, h1]; rfl
      · rw [List.append_nil]; exact tr.last i y e hy h2
    · rw [a.ops, List.getElem?_set_ne (Ne.symm hij)] at hop
      rw [other i hij]
      exact tr.last i op e hop he
  · rw [a.cfg]
    by_cases hij : i = j
    · subst hij
      rw [hE, caused_append]
      refine ⟨tr.hand i, ?_⟩
      -- the move logs no hand-out, or hands out from inside the last check, which `y` logged last
      obtain hno | ⟨_, ob, -, kind, -, rfl, -⟩ := m.noHo_or_out
      · exact caused_of_noHo hno _
      · obtain ⟨-, e, h1, h2⟩ := Move.out_cause (i := i) kind
        rw [tr.last i y e hy h1]
        exact ⟨fun o' ho => by cases ho; exact ⟨e, rfl, h2⟩, nofun, trivial⟩
    · rw [other i hij]; exact tr.hand i

theorem Tr.start {s : State} {sp : Spec} {x : Op} (tr : Tr s) (hi : Op.init sp x) :
    Tr (s.start x) := by
  refine ⟨fun i op e hop he => ?_, tr.hand⟩
  exact forall_append_single
    (fun j u hj e he => tr.last j u e hj he) (fun e he => by rw [hi.lastEv] at he; cases he)
    (fun _ _ _ h => h) i op hop e he

theorem Tr.tick {s : State} (tr : Tr s) : Tr s.tick := ⟨tr.last, tr.hand⟩

theorem Tr.step {s s' : State} {a : Action} (tr : Tr s) (h : step s a = some s') : Tr s' := by
  cases step_cases h with
  | start _ hi => exact (tr.start hi).tick
  | op _ _ hy f => exact (tr.eff hy (f.eff hy)).tick

theorem run_tr (cfg : Cfg) (acts : List Action) : Tr (run (init cfg) acts) :=
  run_induction acts (Tr.init cfg) fun _ _ _ => Tr.step

end DeadpoolVerif
