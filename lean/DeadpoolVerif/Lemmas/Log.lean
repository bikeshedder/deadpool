/-
The event log.  It only grows; what a step of operation `i` appends names `i`, so the sub-log
of any other operation is untouched; a hand-out is appended only by the `out` rule, from inside
the last check; a step leaves the configuration alone; an operation other than a get() stays
one and logs neither a hand-out nor a call of `Manager::create`.  The facts about steps are read
off `Fires.eff`.
-/
import DeadpoolVerif.Lemmas.Conserve

namespace DeadpoolVerif

/-- the events of operation `i`, in order -/
def evsOf (i : Nat) (log : List Ev) : List Ev := log.filter (·.op == i)

theorem evsOf_append (i : Nat) (l₁ l₂ : List Ev) : evsOf i (l₁ ++ l₂) = evsOf i l₁ ++ evsOf i l₂ := by
  simp [evsOf]

theorem evsOf_own {i : Nat} {es : List Ev} (h : ∀ e ∈ es, e.op = i) : evsOf i es = es := by
  simp only [evsOf, List.filter_eq_self]
  intro e he
  simp [h e he]

theorem evsOf_other {i j : Nat} {es : List Ev} (h : ∀ e ∈ es, e.op = j) (hij : i ≠ j) :
    evsOf i es = [] :=
  List.filter_eq_nil_iff.mpr fun e he => by simp [h e he, Ne.symm hij]

def Ev.isHandout : Ev → Bool
  | .handout .. => true
  | _ => false

def noHo (es : List Ev) : Prop := ∀ e ∈ es, e.isHandout = false

theorem noHo.not_mem {es : List Ev} (h : noHo es) (j : Nat) (o : Obj) : Ev.handout j o ∉ es :=
  fun hm => nomatch h _ hm

theorem noHo_append {a b : List Ev} (ha : noHo a) (hb : noHo b) : noHo (a ++ b) :=
  fun e he => (List.mem_append.mp he).elim (ha e) (hb e)

namespace Move
variable {s : State} {i : Nat} {y x : Op} {oc : Outcome} {es : List Ev} {idle out : List Obj}
  {n : Nat}

theorem own (m : Move s i y oc x es idle out n) : ∀ e ∈ es, e.op = i := by
  cases m with
  | stay _ _ _ evs _ => exact fun e he => (stay_evs evs e he).2
  | gone _ _ _ _ _ hf ht =>
    rcases hf with rfl | rfl <;> rcases ht with rfl | rfl <;> simp [Ev.op]
  | drain _ _ _ _ _ _ ht =>
    refine fun e he => (List.mem_append.mp he).elim
      ((forall_mem_drainEvs (P := fun e => e.op = i)).mpr (fun _ _ => ⟨rfl, rfl⟩) e) fun h => ?_
    -- the tail is empty, or the one event `closedEv i`
    rcases ht with rfl | rfl
    · cases h
    · cases List.mem_singleton.mp h; rfl
  | retain _ =>
    exact forall_mem_append_single
      (forall_mem_retainEvs (P := fun e => e.op = i) (fun _ _ _ _ => rfl) (fun _ _ => rfl) 0) rfl
  | _ => simp [Ev.op, recycleCall]

/-- only the `out` rule logs a hand-out -/
theorem noHo_or_out (m : Move s i y oc x es idle out n) :
    noHo es ∨ ∃ o ob, y.held = some o ∧ HandsOut s y oc o ob ∧ x = .done ∧
      es = [.handout i ob, .result i (.ok ob.id)] ∧ idle = s.idle ∧ out = s.out ++ [ob] ∧
      n = s.nextId := by
  cases m with
  | out hy kind => exact .inr ⟨_, _, hy, kind, rfl, rfl, rfl, rfl, rfl⟩
  | stay _ _ _ evs _ =>
    refine .inl fun e he => ?_
    have := (stay_evs evs e he).1
    cases e <;> first | rfl | cases this
  | gone _ _ _ _ _ hf ht =>
    left; rcases hf with rfl | rfl <;> rcases ht with rfl | rfl <;> simp [noHo, Ev.isHandout]
  | drain _ _ _ _ _ _ ht =>
    refine .inl (noHo_append (forall_mem_drainEvs.mpr
      fun _ _ => ⟨rfl, rfl⟩) ?_)
    rcases ht with rfl | rfl <;> simp [noHo, Ev.isHandout]
  | retain _ =>
    exact .inl (noHo_append
      (forall_mem_retainEvs (P := fun e => e.isHandout = false) (fun _ _ _ _ => rfl) (fun _ _ => rfl) 0)
      (by simp [noHo, Ev.isHandout]))
  | _ => left; simp [noHo, Ev.isHandout, recycleCall]

/-- what an operation other than a get() logs is neither a hand-out nor a call of
`Manager::create`: those come with the rules `out` and `stay` of a get() -/
theorem nonget_evs (m : Move s i y oc x es idle out n) (hng : y.isGet = false) :
    ∀ e ∈ es, (∀ k o, e ≠ .handout k o) ∧ ∀ k, e ≠ .createCall k := by
  cases m with
  | stay _ hg _ evs _ =>
    intro e he
    have hx : x.lastEv s.cfg i = none := by
      cases x <;> first | rfl | (rw [hg rfl] at hng; cases hng)
    rw [hx] at evs
    have hp := ((evs e he).resolve_right nofun).1
    cases e <;> first | (cases hp; done) | exact ⟨by simp, by simp⟩
  | gone _ _ _ _ _ hf ht => rcases hf with rfl | rfl <;> rcases ht with rfl | rfl <;> simp
  | park => simp
  | drain _ _ _ _ _ _ ht =>
    refine List.forall_mem_append.mpr
      ⟨forall_mem_drainEvs.mpr fun _ _ => ⟨⟨nofun, nofun⟩, nofun, nofun⟩, ?_⟩
    rcases ht with rfl | rfl <;> simp
  | retain =>
    exact List.forall_mem_append.mpr
      ⟨forall_mem_retainEvs (fun _ _ _ _ => ⟨nofun, nofun⟩) (fun _ _ => ⟨nofun, nofun⟩) 0, by simp⟩
  | pop hy | new hy => subst hy; cases hng
  | out _ kind =>
    obtain ⟨_, _, _, rfl, -⟩ | ⟨_, _, _, rfl, -⟩ | ⟨_, rfl, -⟩ := kind <;> cases hng


end Move

/-- a hand-out event in what a step of get() logs comes from one of the three hand-out situations -/
theorem GetStep.handsOut {s : State} {i : Nat} {t : Timeouts} {pc : GPc} {oc : Outcome} {x : Op}
    {es : List Ev} {idle out : List Obj} {n : Nat} (st : GetStep s i t pc oc x es idle out n) {j : Nat}
    {o' : Obj} (h : Ev.handout j o' ∈ es) : ∃ o, HandsOut s (.get t pc) oc o o' := by
  obtain hno | ⟨o, ob, -, kind, -, rfl, -⟩ := st.move.noHo_or_out
  · exact absurd h (hno.not_mem j o')
  · simp at h; exact ⟨o, h.2 ▸ kind⟩

/-- a hand-out event of operation `k` is appended only by a step of `k` itself, standing inside
the last check of its sequence -/
theorem Fires.handout_by {s s' : State} {j : Nat} {oc : Outcome} {y : Op} (f : Fires s j oc s' y)
    (hy : s.ops[j]? = some y) {k : Nat} {o : Obj} (hin : Ev.handout k o ∈ s'.log) :
    Ev.handout k o ∈ s.log ∨ k = j ∧ ∃ e, y.lastEv s.cfg j = some e ∧ HandoutCause s.cfg j e o := by
  obtain ⟨_, _, _, _, _, a, m⟩ := f.eff hy
  rw [a.log] at hin
  refine (List.mem_append.mp hin).imp_right fun he => ?_
  obtain hno | ⟨_, ob, -, kind, -, rfl, -⟩ := m.noHo_or_out
  · exact absurd he (hno.not_mem k o)
  · obtain ⟨-, e, h1, h2⟩ := Move.out_cause (i := j) kind
    have hk : k = j := m.own _ he
    subst hk
    cases (by simpa using he : o = ob)
    exact ⟨rfl, e, h1, h2⟩

/-- a step leaves the configuration alone and only appends to the log -/
theorem step_cfg_log {s s' : State} {a : Action} (hs : step s a = some s') :
    s'.cfg = s.cfg ∧ ∃ es, s'.log = s.log ++ es := by
  cases step_cases hs with
  | start => exact ⟨rfl, [], (List.append_nil _).symm⟩
  | op _ _ hy f =>
    obtain ⟨_, es, _, _, _, a, -⟩ := f.eff hy
    exact ⟨a.cfg, es, a.log⟩

theorem run_cfg (s : State) (acts : List Action) : (run s acts).cfg = s.cfg :=
  run_induction (P := fun s' => s'.cfg = s.cfg) acts rfl fun _ _ _ h hst => (step_cfg_log hst).1.trans h

theorem goneCnt_step_mono {s s' : State} {a : Action} (hs : step s a = some s') (id : Nat) :
    goneCnt id s.log ≤ goneCnt id s'.log := by
  obtain ⟨es, h⟩ := (step_cfg_log hs).2
  rw [h, goneCnt_append]
  omega

/-- an object that is gone stays gone -/
theorem goneCnt_run_mono (s : State) (more : List Action) (id : Nat) :
    goneCnt id s.log ≤ goneCnt id (run s more).log :=
  run_induction (P := fun s' => goneCnt id s.log ≤ goneCnt id s'.log) more (Nat.le_refl _)
    fun _ _ _ h hst => Nat.le_trans h (goneCnt_step_mono hst id)

theorem Fires.nonget {s s' : State} {i : Nat} {oc : Outcome} {y : Op} (f : Fires s i oc s' y)
    (hy : s.ops[i]? = some y) (hng : y.isGet = false) :
    s'.cfg = s.cfg ∧ ∃ x es, s'.ops = s.ops.set i x ∧ s'.log = s.log ++ es ∧ x.isGet = false ∧
      ∀ e ∈ es, (∀ k o, e ≠ .handout k o) ∧ ∀ k, e ≠ .createCall k := by
  obtain ⟨x, es, _, _, _, a, m⟩ := f.eff hy
  have hxg : x.isGet = false := Bool.eq_false_iff.mpr fun hx => by rw [m.isGet hx] at hng; cases hng
  exact ⟨a.cfg, x, es, a.ops, a.log, hxg, m.nonget_evs hng⟩

/-- a step is a step of a get() (then `stepGet_spec` describes it) or of another operation -/
theorem Fires.get_or_nonget {s s' : State} {i : Nat} {oc : Outcome} {y : Op}
    (f : Fires s i oc s' y) :
    (∃ t pc, y = .get t pc ∧ stepGet s i t pc oc = some s') ∨ y.isGet = false := by
  cases f with
  | get h => exact .inl ⟨_, _, rfl, h⟩
  | _ => exact .inr rfl

end DeadpoolVerif
