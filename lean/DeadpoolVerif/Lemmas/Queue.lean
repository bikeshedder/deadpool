/-
What the idle-queue functions of the managed model compute: `popIdle`, the event lists of
`close()` (`drainEvs`) and `retain` (`retainEvs`), `retainKept` / `retainRemoved` (`selectBy`: the
objects for which the predicate answered `b`).  `popIdle` is characterised once and the rest is
read off that; `drainEvs` is a `flatMap` (`drainEvs_eq`); the three `retain` functions share a
recursion over the call index, and what the invariants need of them (lengths, counts, "every
event is …") goes along it.
-/
import DeadpoolVerif.Model.Managed
import DeadpoolVerif.Lemmas.Sum

namespace DeadpoolVerif

/-- `pop_front` / `pop_back` -/
theorem popIdle_eq_some {m : QueueMode} {idle rest : List Obj} {o : Obj} :
    popIdle m idle = some (o, rest) ↔
      (m = .fifo ∧ idle = o :: rest) ∨ (m = .lifo ∧ idle = rest ++ [o]) := by
  cases m <;> simp only [popIdle]
  · cases idle <;> simp
  · rcases List.eq_nil_or_concat idle with rfl | ⟨l, a, rfl⟩ <;> simp
    exact And.comm

theorem popIdle_eq_none {m : QueueMode} {idle : List Obj} : popIdle m idle = none ↔ idle = [] := by
  cases m <;> simp only [popIdle]
  · cases idle <;> simp
  · rcases List.eq_nil_or_concat idle with rfl | ⟨l, a, rfl⟩ <;> simp

theorem length_of_popIdle_some {m : QueueMode} {idle rest : List Obj} {o : Obj}
    (h : popIdle m idle = some (o, rest)) : rest.length + 1 = idle.length := by
  rcases popIdle_eq_some.mp h with ⟨_, rfl⟩ | ⟨_, rfl⟩ <;> simp

theorem length_of_popIdle_none {m : QueueMode} {idle : List Obj} (h : popIdle m idle = none) :
    idle.length = 0 := by
  simp [popIdle_eq_none.mp h]

theorem popIdle_mem {m : QueueMode} {idle rest : List Obj} {o : Obj}
    (h : popIdle m idle = some (o, rest)) : o ∈ idle ∧ rest.Sublist idle := by
  rcases popIdle_eq_some.mp h with ⟨_, rfl⟩ | ⟨_, rfl⟩ <;> simp

/-- `close()` detaches and destroys every idle object, front to back -/
theorem drainEvs_eq (i : Nat) (l : List Obj) :
    drainEvs i l = l.flatMap fun o => [.detach i o.id, .destroy i o.id] := by
  induction l with
  | nil => rfl
  | cons o rest ih => simp [drainEvs, ih]

theorem forall_mem_drainEvs {P : Ev → Prop} {i : Nat} {l : List Obj} :
    (∀ e ∈ drainEvs i l, P e) ↔ ∀ o ∈ l, P (.detach i o.id) ∧ P (.destroy i o.id) := by
  simp [drainEvs_eq]
  grind

theorem sumW_drainEvs (f : Ev → Nat) (i : Nat) (l : List Obj) :
    sumW f (drainEvs i l) = sumW (fun o => f (.detach i o.id) + f (.destroy i o.id)) l := by
  induction l with
  | nil => rfl
  | cons o rest ih => simp [drainEvs, ih]; omega

/-- `retain` logs one predicate call per idle object and a `detach` for each one removed -/
theorem forall_mem_retainEvs {P : Ev → Prop} {i : Nat} {keep : List Bool} {l : List Obj}
    (hp : ∀ k, ∀ o ∈ l, ∀ b, P (.pred i k o b)) (hd : ∀ o ∈ l, P (.detach i o.id)) (k : Nat) :
    ∀ e ∈ retainEvs i keep k l, P e := by
  induction l generalizing k with
  | nil => simp [retainEvs]
  | cons o rest ih =>
    have ih := ih (fun k o ho => hp k o (by simp [ho])) (fun o ho => hd o (by simp [ho])) (k + 1)
    have h1 := hp k o (by simp)
    have h2 := hd o (by simp)
    simp only [retainEvs]
    split <;> simpa [h1, h2] using ih

/-- a weight that ignores predicate calls sees only the `detach`es of the removed objects -/
theorem sumW_retainEvs (f : Ev → Nat) (i : Nat) (keep : List Bool) (k : Nat) (l : List Obj)
    (hp : ∀ k o b, f (.pred i k o b) = 0) :
    sumW f (retainEvs i keep k l) = sumW (fun o => f (.detach i o.id)) (retainRemoved keep k l) := by
  induction l generalizing k with
  | nil => rfl
  | cons o rest ih =>
    simp only [retainEvs, retainRemoved]
    split <;> simp [hp, ih]

theorem retain_length (keep : List Bool) (k : Nat) (l : List Obj) :
    (retainKept keep k l).length + (retainRemoved keep k l).length = l.length := by
  induction l generalizing k with
  | nil => rfl
  | cons o rest ih =>
    have := ih (k + 1)
    simp only [retainKept, retainRemoved]
    split <;> simp only [List.length_cons] <;> omega

/-- the idle objects for which the `j`-th predicate call answers `b` (calls are numbered
from `k`; an index beyond the script means "keep") -/
def selectBy (keep : List Bool) (b : Bool) : Nat → List Obj → List Obj
  | _, [] => []
  | k, o :: rest =>
    if keep.getD k true = b then o :: selectBy keep b (k + 1) rest else selectBy keep b (k + 1) rest

theorem retainKept_eq (keep : List Bool) (k : Nat) (l : List Obj) :
    retainKept keep k l = selectBy keep true k l := by
  induction l generalizing k with
  | nil => rfl
  | cons o rest ih => simp only [retainKept, selectBy, ih]

theorem retainRemoved_eq (keep : List Bool) (k : Nat) (l : List Obj) :
    retainRemoved keep k l = selectBy keep false k l := by
  induction l generalizing k with
  | nil => rfl
  | cons o rest ih =>
    simp only [retainRemoved, selectBy, ih]
    cases keep.getD k true <;> simp

theorem selectBy_sublist (keep : List Bool) (b : Bool) (k : Nat) (l : List Obj) :
    (selectBy keep b k l).Sublist l := by
  induction l generalizing k with
  | nil => exact .slnil
  | cons o rest ih =>
    simp only [selectBy]
    split
    · exact (ih (k + 1)).cons_cons o
    · exact (ih (k + 1)).cons o

theorem retainKept_sublist (keep : List Bool) (k : Nat) (l : List Obj) :
    (retainKept keep k l).Sublist l :=
  retainKept_eq keep k l ▸ selectBy_sublist keep true k l

end DeadpoolVerif
