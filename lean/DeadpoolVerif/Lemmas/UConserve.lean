/-
Unmanaged pool: every object that was ever added is in exactly one place — waiting in the
queue, in a caller's hands, handed back to a caller for good, in the hands of an operation,
or dropped by the pool (which happens only after close, see `U.Acct.open_`).
-/
import DeadpoolVerif.Lemmas.UStep
import DeadpoolVerif.Lemmas.Conserve

namespace DeadpoolVerif
namespace U

/-- the object an operation has in hand -/
def Op.heldId : Op → Option Nat
  | .add id _ .start | .add id _ .queued | .add id _ .size | .add id _ .push => some id
  | .get _ _ _ (.avail id) => some id
  | .ret id .push => some id
  | .take id _ _ => some id
  | _ => none

def Op.heldCnt (id : Nat) (op : Op) : Nat :=
  match op.heldId with
  | some x => eqInd x id
  | none => 0

structure Conserve (s : State) : Prop where
  place : ∀ id, ltInd id s.nextId =
    natCnt id s.queue + natCnt id s.hands + natCnt id s.returned + natCnt id s.dropped +
    sumW (Op.heldCnt id) s.ops

theorem Conserve.init (cfg : Cfg) : Conserve (init cfg) := by
  constructor
  intro id
  simp [U.init, natCnt_range]

/-- the count before a `pop`, in terms of the count after it -/
theorem natCnt_of_getLast? {l : List Nat} {x : Nat} (h : l.getLast? = some x) (id : Nat) :
    natCnt id l = natCnt id l.dropLast + eqInd x id := by
  obtain ⟨ys, rfl⟩ := List.getLast?_eq_some_iff.mp h
  simp only [List.dropLast_concat, natCnt_append, natCnt_cons, natCnt_nil, Nat.add_zero]

/-- operation `i` is replaced by `x`: the places of an id other than the ops list, together with
what `x` holds, count the same as before with what `y` held -/
theorem Conserve.update {s s' : State} {i : Nat} {x y : Op} (c : Conserve s) (h : s.ops[i]? = some y)
    (hops : s'.ops = s.ops.set i x) (hn : s'.nextId = s.nextId)
    (hstep : ∀ id, natCnt id s'.queue + natCnt id s'.hands + natCnt id s'.returned +
        natCnt id s'.dropped + x.heldCnt id =
      natCnt id s.queue + natCnt id s.hands + natCnt id s.returned + natCnt id s.dropped +
        y.heldCnt id) : Conserve s' := by
  refine ⟨fun id => ?_⟩
  have := c.place id
  have := sumW_set (Op.heldCnt id) s.ops i x y h
  have := hstep id
  rw [hops, hn]
  omega

theorem Conserve.stepOp {s s' : State} {i : Nat} {oc : Outcome} (c : Conserve s)
    (hs : stepOp s i oc = some s') : Conserve s' := by
  obtain ⟨y, h, f⟩ := stepOp_fires hs
  rcases f with ⟨w, t, r, pc, hs⟩ | ⟨id, t, pc, hs⟩ | ⟨id, pc, hs⟩ | ⟨id, pc, v, hs⟩ | ⟨pc, hs⟩ | ⟨hs⟩
  all_goals leaves [stepGet, stepAdd, stepRet, stepTake, stepClose, finishGet, failGet, clear,
    State.setOp, State.emit] at hs
  all_goals refine c.update h rfl rfl fun id => ?_
  all_goals dsimp only [Op.heldCnt, Op.heldId]
  all_goals (
    simp (disch := assumption) only [natCnt_append, natCnt_cons, natCnt_nil, natCnt_of_getLast?] <;> omega)

/-- a new operation is appended: what it holds is the id just issued (`add`) or came out of the
caller's hands (`ret` / `take`) -/
theorem Conserve.append {s : State} (c : Conserve s) {x : Op} {H : List Nat} {n : Nat}
    (h : ∀ id, ltInd id n + natCnt id s.hands = ltInd id s.nextId + natCnt id H + x.heldCnt id) :
    Conserve { s with ops := s.ops ++ [x], hands := H, nextId := n } := by
  refine ⟨fun id => ?_⟩
  have := c.place id
  have := h id
  simp only [sumW_append, sumW_cons, sumW_nil]
  omega

theorem Conserve.start {s s' : State} {sp : Spec} (c : Conserve s)
    (hs : startOp s sp = some s') : Conserve s' := by
  cases sp
  all_goals leaves [startOp] at hs
  all_goals refine c.append fun id => ?_
  all_goals dsimp only [Op.heldCnt, Op.heldId]
  case add | tryAdd => rw [ltInd_succ]; omega
  case ret | take => rw [← natCnt_erase ‹_› id]; omega
  all_goals rfl

theorem Conserve.step {s s' : State} {act : Action} (c : Conserve s) (hs : step s act = some s') :
    Conserve s' := by
  cases act with
  | start sp => exact Conserve.start c hs
  | step i oc => exact Conserve.stepOp c hs

theorem run_conserve (cfg : Cfg) (acts : List Action) : Conserve (run (init cfg) acts) :=
  run_induction acts (Conserve.init cfg) (fun _ _ _ => Conserve.step)

end U
end DeadpoolVerif
