/-
A closed unmanaged pool keeps no objects: whenever the pool is closed and nobody is on
their way to `clear()`, the queue is empty.
-/
import DeadpoolVerif.Lemmas.UStep
import DeadpoolVerif.Lemmas.Sum

namespace DeadpoolVerif
namespace U

/-- the op will certainly run `clean_up()` / `clear()` (it pushed an object, or it is the
close itself) -/
def Op.cleanerW : Op → Nat
  | .ret _ .avail | .ret _ .addPermits | .ret _ .cleanup | .ret _ .clear => 1
  | .add _ _ .avail | .add _ _ .addPermits | .add _ _ .cleanup | .add _ _ .clear => 1
  | .close .sizeSem | .close .clear => 1
  | _ => 0

/-- a closed pool holds nothing once nobody is left who will clear the queue -/
structure Empt (s : State) : Prop where
  closedEmpty : s.sem.closed = true → sumW Op.cleanerW s.ops = 0 → s.queue = []

theorem Empt.init (cfg : Cfg) : Empt (init cfg) := by
  constructor
  intro h
  simp [U.init, Sem.new] at h

/-- the pool is closed by the first step of `close()` only, and that step leaves a cleaner behind -/
theorem Frame.closed_or_cleaner {s s' : State} {i : Nat} (fr : Frame s s' i)
    (hc : s'.sem.closed = true) : s.sem.closed = true ∨ 0 < sumW Op.cleanerW s'.ops := by
  rcases fr.sem with c | ⟨h, rfl⟩
  · exact .inl (c.closed ▸ hc)
  · have := sumW_set Op.cleanerW s.ops i (.close .sizeSem) _ h
    simp only [Op.cleanerW] at this
    exact .inr (by simp only [State.setOp]; omega)

/-- operation `i` is replaced by `x`: while the pool is closed and `x` is no cleaner, either the
queue is empty afterwards or `y` was no cleaner and the queue has not grown -/
theorem Empt.update {s s' : State} {i : Nat} {x y : Op} (e : Empt s) (h : s.ops[i]? = some y)
    (hops : s'.ops = s.ops.set i x)
    (hcl : s'.sem.closed = true → s.sem.closed = true ∨ 0 < sumW Op.cleanerW s'.ops)
    (hstep : s.sem.closed = true → x.cleanerW = 0 →
      s'.queue.length = 0 ∨ y.cleanerW = 0 ∧ s'.queue.length ≤ s.queue.length) : Empt s' := by
  refine ⟨fun hc hz => List.eq_nil_of_length_eq_zero ?_⟩
  have e1 := sumW_set Op.cleanerW s.ops i x y h
  have e2 := sumW_mem_le Op.cleanerW h
  rw [hops] at hz
  rcases hcl hc with hc0 | hpos
  · rcases hstep hc0 (by omega) with h0 | ⟨hy, hq⟩
    · exact h0
    · have := e.closedEmpty hc0 (by omega)
      rw [this] at hq
      exact Nat.le_zero.mp hq
  · rw [hops] at hpos; omega

theorem eq_true_of_not {b : Bool} (h : ¬b = true) : (b = true) = False := eq_false h

theorem Empt.stepOp {s s' : State} {i : Nat} {oc : Outcome} (e : Empt s)
    (hs : stepOp s i oc = some s') : Empt s' := by
  have hcl := (stepOp_frame hs).closed_or_cleaner
  obtain ⟨y, h, f⟩ := stepOp_fires hs
  rcases f with ⟨w, t, r, pc, hs⟩ | ⟨id, t, pc, hs⟩ | ⟨id, pc, hs⟩ | ⟨id, pc, v, hs⟩ | ⟨pc, hs⟩ | ⟨hs⟩
  all_goals leaves [stepGet, stepAdd, stepRet, stepTake, stepClose, finishGet, failGet, clear,
    State.setOp, State.emit] at hs
  all_goals refine e.update h rfl hcl ?_
  -- (`eq_true_of_not`: `clean_up()` on a pool it found open)
  all_goals (
    simp (disch := assumption) only [Op.cleanerW, List.length_nil,
      List.length_dropLast, eq_true_of_not, implies_true, false_implies, true_and, true_or]
      <;> omega)

theorem Empt.step {s s' : State} {act : Action} (e : Empt s) (hs : step s act = some s') : Empt s' := by
  cases act with
  | step i oc => exact Empt.stepOp e hs
  | start sp =>
    obtain ⟨x, H, n, rfl⟩ := startOp_eq hs
    exact ⟨fun hc hz => e.closedEmpty hc (by simp only [sumW_append] at hz; omega)⟩

theorem run_empty (cfg : Cfg) (acts : List Action) : Empt (run (init cfg) acts) :=
  run_induction acts (Empt.init cfg) (fun _ _ _ => Empt.step)

end U
end DeadpoolVerif
