/-
Accounting invariant of the unmanaged pool model, preserved by every transition: one
transition lemma (`Acct.update`: operation `i` is replaced, the counters move by the difference
of the weights) instantiated in every leaf of `stepOp` by one traversal.
-/
import DeadpoolVerif.Lemmas.UStep
import DeadpoolVerif.Lemmas.Sum

namespace DeadpoolVerif

namespace U

/-- the get holds a permit of `sem` but has not popped yet -/
def Op.popW : Op → Nat
  | .get _ _ _ .pop => 1
  | _ => 0

/-- an object was pushed but its permit has not been added yet -/
def Op.pendW : Op → Nat
  | .add _ _ .avail | .add _ _ .addPermits => 1
  | .ret _ .avail | .ret _ .addPermits => 1
  | _ => 0

/-- the op holds an object that is counted in `size` but is neither queued nor in a
caller's hands -/
def Op.inFlightW : Op → Nat
  | .add _ _ .push => 1
  | .get _ _ _ (.avail _) => 1
  | .ret _ .push => 1
  | .take _ .size _ => 1
  | _ => 0

/-- a `size_semaphore` permit was taken, `size` not yet incremented -/
def Op.addW : Op → Nat
  | .add _ _ .size => 1
  | _ => 0

/-- `size` was decremented, the `size_semaphore` permit not yet returned -/
def Op.takeW : Op → Nat
  | .take _ .addPermits _ => 1
  | _ => 0

/-- pushed, `available` not yet incremented -/
def Op.pushW : Op → Nat
  | .add _ _ .avail | .ret _ .avail => 1
  | _ => 0

/-- a `timeout_get` that counts as waiting -/
def Op.waitW : Op → Nat
  | .get _ false _ .queued | .get _ false _ .pop => 1
  | _ => 0

/-- a `try_get` that popped but has not decremented `available` yet -/
def Op.tryW : Op → Nat
  | .get _ _ _ (.avail _) => 1
  | _ => 0

/-- the op is about to run `clear` (possible only on a closed pool) -/
def Op.clearW : Op → Nat
  | .close .sizeSem | .close .clear => 1
  | .ret _ .clear => 1
  | .add _ _ .clear => 1
  | _ => 0

structure Acct (s : State) : Prop where
  /-- while open: every queued object is matched by exactly one permit (free, assigned,
  held by a getter that has not popped yet) or is about to get one; nothing was dropped; nobody
  is about to clear the queue -/
  open_ : s.sem.closed = false →
    s.sem.tokens + sumW Op.popW s.ops + sumW Op.pendW s.ops = s.queue.length ∧
    s.dropped.length = 0 ∧ sumW Op.clearW s.ops = 0
  /-- `size` counts the objects of the pool -/
  siz : s.size = s.queue.length + s.hands.length + sumW Op.inFlightW s.ops
  /-- the size semaphore accounts for the free slots -/
  slots : s.sizeSem.tokens + s.size + s.dropped.length + sumW Op.addW s.ops + sumW Op.takeW s.ops =
    s.cfg.maxSize
  /-- `available` = queued objects minus waiting callers (up to operations in flight) -/
  avail : s.available + (sumW Op.pushW s.ops : Int) + (sumW Op.waitW s.ops : Int) =
    (s.queue.length : Int) + (sumW Op.tryW s.ops : Int)
  nf : s.fault = none

theorem Acct.init (cfg : Cfg) (h : cfg.initial ≤ cfg.maxSize) : Acct (init cfg) := by
  refine ⟨?_, ?_, ?_, ?_, rfl⟩ <;>
    simp [U.init, Sem.new, Sem.tokens] <;> omega

theorem tryAcquire_fail_tokens {s s' : Sem} {r : TryRes} (h : s.tryAcquire = (s', r)) (hr : r ≠ .ok) :
    s'.tokens = s.tokens := by
  cases r
  · exact absurd rfl hr
  all_goals exact (Sem.tryAcquire_tokens h).symm

theorem tryAcquire_closed_is_closed {s s' : Sem}
    (h : s.tryAcquire = (s', .closed)) : s.closed = true := by
  unfold Sem.tryAcquire at h
  split at h
  · assumption
  · split at h <;> cases h

theorem decFault_none_iff {x k : Nat} : decFault none x k = none ↔ k ≤ x := by
  simp only [decFault, ite_eq_right_iff, reduceCtorEq, imp_false, Nat.not_lt]

/-- The general transition lemma: operation `i` is replaced by `x`, and every balance of `Acct`
is kept if the counters move by the difference of the weights of `x` and `y`.  `hcl`: no step
reopens the pool; the balance of `open_` is needed only while the pool stays open, and then `y` was
not about to clear the queue. -/
theorem Acct.update {s s' : State} {i : Nat} {x y : Op} (a : Acct s) (h : s.ops[i]? = some y)
    (hops : s'.ops = s.ops.set i x) (hcfg : s'.cfg = s.cfg)
    (hcl : s'.sem.closed = false → s.sem.closed = false)
    (hopen : s.sem.closed = false → s'.sem.closed = false → y.clearW = 0 →
      s'.sem.tokens + x.popW + x.pendW + s.queue.length =
        s.sem.tokens + y.popW + y.pendW + s'.queue.length ∧
      s'.dropped.length = s.dropped.length ∧ x.clearW = 0)
    (hstep : s.queue.length + y.inFlightW ≤ s.size →
      s'.fault = none ∧
      s'.size + (s.queue.length + s.hands.length + y.inFlightW) =
        s.size + (s'.queue.length + s'.hands.length + x.inFlightW) ∧
      s'.sizeSem.tokens + s'.size + s'.dropped.length + x.addW + x.takeW =
        s.sizeSem.tokens + s.size + s.dropped.length + y.addW + y.takeW ∧
      s'.available + x.pushW + x.waitW + s.queue.length + y.tryW =
        s.available + y.pushW + y.waitW + s'.queue.length + x.tryW) : Acct s' := by
  have e := fun f => sumW_set f s.ops i x y h
  have hle : s.queue.length + y.inFlightW ≤ s.size := by
    have := a.siz; have := sumW_mem_le Op.inFlightW h; omega
  obtain ⟨hnf, hsiz, hslots, havail⟩ := hstep hle
  -- (`omega` splits on every implication it finds in the context: out of its sight with them)
  clear hstep
  refine ⟨fun hc => ?_, ?_, ?_, ?_, hnf⟩
  · obtain ⟨o1, o2, o3⟩ := a.open_ (hcl hc)
    have e1 := e Op.popW; have e2 := e Op.pendW; have e3 := e Op.clearW
    obtain ⟨p1, p2, p3⟩ := hopen (hcl hc) hc (by have := sumW_mem_le Op.clearW h; omega)
    clear hopen hslots havail hsiz
    rw [hops]
    exact ⟨by omega, by omega, by omega⟩
  · have := a.siz; have := e Op.inFlightW; clear hopen hslots havail; rw [hops]; omega
  · have := a.slots; have := e Op.addW; have := e Op.takeW; clear hopen hsiz havail; rw [hops, hcfg]; omega
  · have := a.avail; have := e Op.pushW; have := e Op.waitW; have := e Op.tryW
    clear hopen hsiz hslots; rw [hops]; omega

/-- a new operation is appended: it carries no weight except, for `ret` / `take`, the object it
took out of the caller's hands -/
theorem Acct.append {s : State} (a : Acct s) {x : Op} {H : List Nat} (n : Nat)
    (h0 : x.popW + x.pendW + x.clearW + x.addW + x.takeW + x.pushW + x.waitW + x.tryW = 0)
    (hH : H.length + x.inFlightW = s.hands.length) :
    Acct { s with ops := s.ops ++ [x], hands := H, nextId := n } := by
  refine ⟨fun hc => ?_, ?_, ?_, ?_, a.nf⟩
  all_goals simp only [sumW_append, sumW_cons, sumW_nil]
  · obtain ⟨o1, o2, o3⟩ := a.open_ hc
    exact ⟨by omega, o2, by omega⟩
  · have := a.siz; omega
  · have := a.slots; omega
  · have := a.avail; omega

-- Tactics that close the fields of `Acct` one leaf of a step function at a time, with the three
-- rewriting forms they use; the proofs of this development go through `Acct.update` and do not
-- call them.
theorem sumW_set' {α : Type} (f : α → Nat) {l : List α} {i : Nat} {y : α} (x : α)
    (h : l[i]? = some y) : sumW f (l.set i x) = sumW f l + f x - f y := by
  have := sumW_set f l i x y h
  omega

theorem decFault_eq_none {f : Option Fault} {x k : Nat} (hf : f = none) (h : k ≤ x) :
    decFault f x k = none :=
  hf ▸ decFault_none_iff.mpr h

theorem dropAcquire_closed (s : Sem) (me : Nat) : (s.dropAcquire me).closed = s.closed :=
  Sem.dropAcquire_closed s me

macro "u_simp" h:ident : tactic => `(tactic|
  simp only [State.setOp, State.emit, finishGet, failGet, clear, sumW_set' _ _ $h, Op.popW, Op.pendW,
    Op.inFlightW, Op.addW, Op.takeW, Op.pushW, Op.waitW, Op.tryW, Op.clearW, List.length_append,
    List.length_cons, List.length_nil, List.length_dropLast, Sem.addPermits_tokens, Sem.dropAcquire_tokens,
    Sem.close_tokens, Sem.addPermits_closed, dropAcquire_closed, Nat.add_zero, Nat.sub_zero, Nat.zero_add,
    Bool.false_eq_true, ↓reduceIte] at *)

/-- closes the five fields of `Acct` for a leaf of a step function -/
macro "u_leaf" h:ident ao:ident st:ident : tactic => `(tactic| (
  refine ⟨?_, ?_, ?_, ?_, ?_⟩
  all_goals first
    | (intro hc'
       have hc : (State.sem $st).closed = false := by
         first
           | exact hc'
           | (simp only [State.setOp, State.emit, clear, Sem.addPermits_closed, dropAcquire_closed, Sem.close] at hc'
              first | exact hc' | (simp at hc'; done))
       obtain ⟨o1, o2, o3⟩ := $ao hc
       refine ⟨?_, ?_, ?_⟩ <;> (u_simp $h <;> omega))
    | (intro hc'; simp only [State.setOp, State.emit, clear, Sem.close] at hc'; simp at hc'; done)
    | (u_simp $h <;> omega)
    | (u_simp $h <;> assumption)
    | (u_simp $h; apply decFault_eq_none ‹_›; omega)))

/-- closes the fields of `Acct` for a step that runs `clear` (only on a closed pool) -/
macro "u_clear_leaf" h:ident hcl:ident : tactic => `(tactic| (
  refine ⟨?_, ?_, ?_, ?_, ?_⟩
  all_goals first
    | (intro hc'; simp only [State.setOp, State.emit, clear] at hc'; rw [$hcl:ident] at hc'; simp at hc'; done)
    | (u_simp $h <;> omega)
    | (u_simp $h <;> assumption)
    | (u_simp $h; apply decFault_eq_none ‹_›; omega)))

/-- the length before a `pop`, in terms of the length after it -/
theorem length_of_getLast? {l : List Nat} {x : Nat} (h : l.getLast? = some x) :
    l.length = l.dropLast.length + 1 := by
  cases l with
  | nil => simp at h
  | cons a l => simp

/-- (rewrites a test `closed = false` that the branch has decided the other way) -/
theorem eq_false_of_eq_true {b : Bool} (h : b = true) : (b = false) = False := by simp [h]

theorem Acct.stepOp {s s' : State} {i : Nat} {oc : Outcome} (a : Acct s)
    (hs : stepOp s i oc = some s') : Acct s' := by
  have hcl := (stepOp_frame hs).open_of_open
  obtain ⟨y, h, f⟩ := stepOp_fires hs
  -- (`try_` is split at once: `waitW` looks at it)
  rcases f with ⟨w, _ | _, r, pc, hs⟩ | ⟨id, t, pc, hs⟩ | ⟨id, pc, hs⟩ | ⟨id, pc, v, hs⟩ | ⟨pc, hs⟩ | ⟨hs⟩
  all_goals leaves [stepGet, stepAdd, stepRet, stepTake, stepClose, finishGet, failGet, clear,
    State.setOp, State.emit, Bool.false_eq_true, reduceIte] at hs
  all_goals refine a.update h rfl rfl hcl ?_ ?_
  -- Normal form of the side goals: the weights of the two operations; lengths; the tokens of a
  -- semaphore after a call and the length of the queue before a pop (rewrite rules whose hypothesis,
  -- the equation of the `tryAcquire` / `pollAcquire` / `getLast?`, is taken from the context);
  -- `fault`, which was `none`; a closed flag the step has tested.  The rest is linear arithmetic.
  all_goals dsimp only [Op.popW, Op.pendW, Op.inFlightW, Op.addW, Op.takeW, Op.pushW, Op.waitW, Op.tryW,
    Op.clearW]
  all_goals (
    simp (disch := assumption) only [TryRes.took, PollRes.took, List.length_append, List.length_cons,
      List.length_nil, length_of_getLast?, Sem.addPermits_tokens, Sem.dropAcquire_tokens, Sem.close_tokens,
      Sem.tryAcquire_tokens, Sem.pollAcquire_tokens, a.nf, decFault_none_iff, eq_false_of_eq_true,
      Sem.close_closed, Bool.true_eq_false, implies_true, false_implies, true_and, and_true] <;> omega)

theorem Acct.start {s s' : State} {sp : Spec} (a : Acct s) (hs : startOp s sp = some s') :
    Acct s' := by
  cases sp
  all_goals leaves [startOp] at hs
  case ret | take => exact a.append _ rfl (length_erase_add_one ‹_›)
  all_goals exact a.append _ rfl rfl

theorem Acct.step {s s' : State} {act : Action} (a : Acct s) (hs : step s act = some s') :
    Acct s' := by
  cases act with
  | start sp => exact Acct.start a hs
  | step i oc => exact Acct.stepOp a hs

/-- `U.Acct` holds after any list of actions from the initial state (for any pool built by
`new`, `from_config` or from an iterator). -/
theorem run_acct (cfg : Cfg) (hc : cfg.initial ≤ cfg.maxSize) (acts : List Action) :
    Acct (run (init cfg) acts) :=
  run_induction acts (Acct.init cfg hc) (fun _ _ _ => Acct.step)

end U
end DeadpoolVerif
