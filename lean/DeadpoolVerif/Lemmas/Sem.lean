/-
The semaphore model: token arithmetic of every call (`tryAcquire_spec`, `pollAcquire_spec`:
the flag is kept, tokens before = tokens after + what the call took), what a closed semaphore
answers, and the structural invariant `WF` with the way each call changes the set of
registered waiters.
-/
import DeadpoolVerif.Model.Sem
import DeadpoolVerif.Lemmas.ListAt

namespace DeadpoolVerif

/-- permits a `try_acquire` took -/
def TryRes.took : TryRes → Nat
  | .ok => 1
  | _ => 0

/-- permits a poll of `Acquire` took -/
def PollRes.took : PollRes → Nat
  | .ok => 1
  | _ => 0

namespace Sem

theorem tokens_def (s : Sem) : s.tokens = s.permits + s.assigned.length := rfl

theorem addPermits_tokens (s : Sem) (n : Nat) : (s.addPermits n).tokens = s.tokens + n := by
  simp only [addPermits, tokens, List.length_append, List.length_take]
  omega

theorem addPermits_closed (s : Sem) (n : Nat) : (s.addPermits n).closed = s.closed := rfl

/-- a permit that becomes free goes to the longest waiter at once -/
theorem addPermits_one_cons {s : Sem} {i : Nat} {rest : List Nat} (h : s.queue = i :: rest) :
    i ∈ (s.addPermits 1).assigned ∧ (s.addPermits 1).queue = rest := by
  simp [addPermits, h]

theorem dropAcquire_tokens (s : Sem) (me : Nat) : (s.dropAcquire me).tokens = s.tokens := by
  unfold dropAcquire
  split
  · rename_i hm
    rw [addPermits_tokens]
    simp only [tokens]
    have := length_erase_add_one hm
    omega
  · simp [tokens]

theorem close_tokens (s : Sem) : s.close.tokens = s.tokens := rfl

theorem close_closed (s : Sem) : s.close.closed = true := rfl

theorem dropAcquire_closed (s : Sem) (me : Nat) : (s.dropAcquire me).closed = s.closed := by
  unfold Sem.dropAcquire
  split <;> rfl

theorem tryAcquire_of_closed {s : Sem} (hc : s.closed = true) : s.tryAcquire = (s, .closed) := by
  unfold tryAcquire; rw [if_pos hc]

/-- on a closed semaphore a poll is `Acquire::drop` -/
theorem pollAcquire_of_closed {s : Sem} (me : Nat) (hc : s.closed = true) :
    s.pollAcquire me = (s.dropAcquire me, .closed) := by
  unfold pollAcquire dropAcquire
  rw [if_pos hc]
  split <;> rfl

theorem tryAcquire_of_empty {s : Sem} (hc : s.closed = false) (hp : s.permits = 0) :
    s.tryAcquire = (s, .noPermits) := by
  simp only [tryAcquire, hc, hp, Bool.false_eq_true, if_false, if_true]

theorem tryAcquire_of_free {s : Sem} (hc : s.closed = false) (hp : 0 < s.permits) :
    s.tryAcquire = ({ s with permits := s.permits - 1 }, .ok) := by
  simp only [tryAcquire, hc, Nat.ne_of_gt hp, Bool.false_eq_true, if_false]

theorem pollAcquire_of_assigned {s : Sem} {me : Nat} (hc : s.closed = false) (ha : me ∈ s.assigned) :
    s.pollAcquire me = ({ s with assigned := s.assigned.erase me }, .ok) := by
  simp only [pollAcquire, hc, ha, Bool.false_eq_true, if_false, if_true]

theorem pollAcquire_of_empty {s : Sem} {me : Nat} (hc : s.closed = false) (ha : me ∉ s.assigned)
    (hp : s.permits = 0) : ∃ s', s.pollAcquire me = (s', .pending) := by
  simp only [pollAcquire, hc, ha, hp, Bool.false_eq_true, if_false, if_true]
  split <;> exact ⟨_, rfl⟩

/-- The whole accounting of a `try_acquire`: the flag is kept, the tokens go down by what was
taken.  (Tokens BEFORE in terms of tokens AFTER, so that the two projections below can be used as
rewrite rules whose hypothesis `simp (disch := assumption)` finds in the context.) -/
theorem tryAcquire_spec {s s' : Sem} {r : TryRes} (h : s.tryAcquire = (s', r)) :
    s'.closed = s.closed ∧ s.tokens = s'.tokens + r.took := by
  unfold tryAcquire at h
  repeat' split at h
  all_goals (simp only [Prod.mk.injEq] at h; obtain ⟨rfl, rfl⟩ := h)
  · exact ⟨rfl, rfl⟩
  · exact ⟨rfl, rfl⟩
  · refine ⟨rfl, ?_⟩; simp only [tokens, TryRes.took]; omega

theorem pollAcquire_spec {s s' : Sem} {me : Nat} {r : PollRes} (h : s.pollAcquire me = (s', r)) :
    s'.closed = s.closed ∧ s.tokens = s'.tokens + r.took := by
  by_cases hc : s.closed = true
  · rw [pollAcquire_of_closed me hc, Prod.mk.injEq] at h
    obtain ⟨rfl, rfl⟩ := h
    exact ⟨dropAcquire_closed s me, (dropAcquire_tokens s me).symm⟩
  · unfold pollAcquire at h
    rw [if_neg hc] at h
    repeat' split at h
    all_goals (rw [Prod.mk.injEq] at h; obtain ⟨rfl, rfl⟩ := h; refine ⟨rfl, ?_⟩)
    · have := length_erase_add_one ‹me ∈ s.assigned›
      simp only [tokens, PollRes.took]; omega
    · rfl
    · rfl
    · simp only [tokens, PollRes.took]; omega

theorem tryAcquire_closed_eq {s s' : Sem} {r : TryRes} (h : s.tryAcquire = (s', r)) :
    s'.closed = s.closed := (tryAcquire_spec h).1

theorem tryAcquire_tokens {s s' : Sem} {r : TryRes} (h : s.tryAcquire = (s', r)) :
    s.tokens = s'.tokens + r.took := (tryAcquire_spec h).2

theorem pollAcquire_closed_eq {s s' : Sem} {me : Nat} {r : PollRes} (h : s.pollAcquire me = (s', r)) :
    s'.closed = s.closed := (pollAcquire_spec h).1

theorem pollAcquire_tokens {s s' : Sem} {me : Nat} {r : PollRes} (h : s.pollAcquire me = (s', r)) :
    s.tokens = s'.tokens + r.took := (pollAcquire_spec h).2

/-- every waiter the semaphore knows about -/
def waiting (s : Sem) : List Nat := s.queue ++ s.assigned

theorem mem_waiting {s : Sem} {j : Nat} : j ∈ s.waiting ↔ j ∈ s.queue ∨ j ∈ s.assigned :=
  List.mem_append

structure WF (s : Sem) : Prop where
  nodup : s.waiting.Nodup
  /-- a free permit is never left unused while somebody queues -/
  free : 0 < s.permits → s.queue = []
  /-- `close` empties the queue and nobody enqueues afterwards -/
  closedq : s.closed = true → s.queue = []

theorem WF.new (n : Nat) : (Sem.new n).WF := by
  constructor <;> simp [Sem.new, waiting]

theorem WF.of_queue_ne_nil {s : Sem} (w : s.WF) (hq : s.queue ≠ []) :
    s.permits = 0 ∧ s.closed = false :=
  ⟨Nat.eq_zero_of_not_pos fun h => hq (w.free h), Bool.eq_false_iff.mpr fun h => hq (w.closedq h)⟩

theorem waiting_addPermits_perm (s : Sem) (n : Nat) :
    (s.addPermits n).waiting.Perm s.waiting := by
  simp only [addPermits]
  -- `drop k q ++ (a ++ take k q)` against `q ++ a`
  refine List.perm_append_comm.trans ?_
  rw [List.append_assoc, List.take_append_drop]
  exact List.perm_append_comm

theorem mem_waiting_addPermits (s : Sem) (n j : Nat) :
    j ∈ (s.addPermits n).waiting ↔ j ∈ s.waiting :=
  (waiting_addPermits_perm s n).mem_iff

theorem WF.addPermits {s : Sem} (w : s.WF) (n : Nat) : (s.addPermits n).WF := by
  refine ⟨?_, ?_, ?_⟩
  · exact (waiting_addPermits_perm s n).nodup_iff.mpr w.nodup
  · intro hp
    simp only [Sem.addPermits] at *
    by_cases hq : s.queue = []
    · simp [hq]
    · have := (w.of_queue_ne_nil hq).1
      have hk : min n s.queue.length = s.queue.length := by omega
      rw [hk]
      simp
  · intro hc
    have := w.closedq hc
    simp [Sem.addPermits, this]

theorem WF.tryAcquire {s s' : Sem} {r : TryRes} (w : s.WF) (h : s.tryAcquire = (s', r)) :
    s'.WF ∧ s'.waiting = s.waiting ∧ s'.closed = s.closed := by
  unfold Sem.tryAcquire at h
  repeat' split at h
  all_goals (simp only [Prod.mk.injEq] at h; obtain ⟨rfl, _⟩ := h)
  · exact ⟨w, rfl, rfl⟩
  · exact ⟨w, rfl, rfl⟩
  · refine ⟨⟨w.nodup, ?_, w.closedq⟩, rfl, rfl⟩
    intro hp
    apply w.free
    simp only at hp
    omega

theorem WF.close {s : Sem} (w : s.WF) : s.close.WF :=
  ⟨(List.nodup_append.mp w.nodup).2.1, fun _ => rfl, fun _ => rfl⟩

theorem mem_waiting_close (s : Sem) (j : Nat) : j ∈ s.close.waiting ↔ j ∈ s.assigned := by
  simp [waiting, Sem.close]

theorem nodup_erase_waiting {q a : List Nat} (h : (q ++ a).Nodup) (me : Nat) :
    (q.erase me ++ a).Nodup ∧ (q ++ a.erase me).Nodup := by
  have ⟨hq, ha, hd⟩ := List.nodup_append.mp h
  constructor
  · refine List.nodup_append.mpr ⟨hq.erase me, ha, ?_⟩
    intro x hx y hy
    exact hd x (List.mem_of_mem_erase hx) y hy
  · refine List.nodup_append.mpr ⟨hq, ha.erase me, ?_⟩
    intro x hx y hy
    exact hd x hx y (List.mem_of_mem_erase hy)

/-- `dropAcquire` removes `me` from the waiters and nothing else -/
theorem WF.dropAcquire {s : Sem} (w : s.WF) (me : Nat) :
    (s.dropAcquire me).WF ∧ (∀ j, j ∈ (s.dropAcquire me).waiting ↔ (j ∈ s.waiting ∧ j ≠ me)) ∧
    (s.dropAcquire me).closed = s.closed := by
  -- `hq`, `ha`: no waiter twice in the queue / among the assigned; `hd`: none in both.  With these
  -- and the branch conditions each membership equivalence below is propositional (`grind`).
  have ⟨hq, ha, hd⟩ := List.nodup_append.mp w.nodup
  unfold Sem.dropAcquire
  split
  · have w1 : WF { s with assigned := s.assigned.erase me } :=
      ⟨(nodup_erase_waiting w.nodup me).2, w.free, w.closedq⟩
    refine ⟨w1.addPermits 1, fun j => ?_, rfl⟩
    rw [mem_waiting_addPermits, mem_waiting, mem_waiting, ha.mem_erase_iff]
    grind
  · refine ⟨⟨(nodup_erase_waiting w.nodup me).1, fun hp => ?_, fun hc => ?_⟩, fun j => ?_, rfl⟩
    · simp [w.free hp]
    · simp [w.closedq hc]
    · rw [mem_waiting, mem_waiting, hq.mem_erase_iff]
      grind

/-- `pollAcquire`: afterwards `me` waits iff the answer was `pending`; nobody else changes -/
theorem WF.pollAcquire {s s' : Sem} {me : Nat} {r : PollRes} (w : s.WF)
    (h : s.pollAcquire me = (s', r)) :
    s'.WF ∧ (∀ j, j ∈ s'.waiting ↔ ((j ∈ s.waiting ∧ j ≠ me) ∨ (r = .pending ∧ j = me))) ∧
    s'.closed = s.closed ∧ (r = .pending → me ∈ s'.queue ∧ s'.permits = 0 ∧ s.closed = false) ∧
    (r = .closed → s.closed = true) := by
  have ⟨hq, ha, hd⟩ := List.nodup_append.mp w.nodup
  by_cases hc : s.closed = true
  · -- closed: the poll is `Acquire::drop`
    cases (pollAcquire_of_closed me hc).symm.trans h
    obtain ⟨w', hm, hcl⟩ := w.dropAcquire me
    exact ⟨w', fun j => by rw [hm]; simp, hcl, nofun, fun _ => hc⟩
  have hcf : s.closed = false := by simpa using hc
  unfold Sem.pollAcquire at h
  rw [if_neg hc] at h
  repeat' split at h
  all_goals cases h
  · -- a permit had been assigned: taken
    refine ⟨⟨(nodup_erase_waiting w.nodup me).2, w.free, w.closedq⟩, fun j => ?_, rfl, nofun, nofun⟩
    rw [mem_waiting, mem_waiting, ha.mem_erase_iff]
    grind
  · -- no permit, already queued: stays
    rename_i hp hmq
    refine ⟨w, fun j => ?_, rfl, fun _ => ⟨hmq, hp, hcf⟩, nofun⟩
    rw [mem_waiting]
    grind
  · -- no permit, not queued: enqueued at the back
    rename_i hp hmq
    refine ⟨⟨?_, fun hp' => absurd hp (Nat.ne_of_gt hp'), fun hc' => absurd hc' hc⟩, fun j => ?_, rfl,
      fun _ => ⟨by simp, hp, hcf⟩, nofun⟩
    · have := w.nodup
      simp only [waiting, List.nodup_append, List.mem_append, List.mem_singleton] at this ⊢
      grind
    · simp only [mem_waiting, List.mem_append, List.mem_singleton]
      grind
  · -- a free permit: nobody queues (`free`), taken
    have hq0 : s.queue = [] := w.free (by omega)
    refine ⟨⟨by simpa [waiting, hq0] using ha, fun _ => by simp [hq0], fun _ => by simp [hq0]⟩,
      fun j => ?_, rfl, nofun, nofun⟩
    simp only [mem_waiting, hq0, List.erase_nil]
    grind

/-- `s'` is `s` after calls other than `close`: the closed flag and well-formedness are kept.  (The
unmanaged pool needs no more of a call; the managed get() says which call it was: `SemCall`.) -/
structure Called (s s' : Sem) : Prop where
  closed : s'.closed = s.closed
  wf : s.WF → s'.WF

theorem Called.refl (s : Sem) : Called s s := ⟨rfl, id⟩

theorem Called.trans {s s' s'' : Sem} (h : Called s s') (h' : Called s' s'') : Called s s'' :=
  ⟨h'.closed.trans h.closed, fun w => h'.wf (h.wf w)⟩

theorem Called.tryAcquire {s s' : Sem} {r : TryRes} (h : s.tryAcquire = (s', r)) : Called s s' :=
  ⟨tryAcquire_closed_eq h, fun w => (w.tryAcquire h).1⟩

theorem Called.pollAcquire {s s' : Sem} {me : Nat} {r : PollRes} (h : s.pollAcquire me = (s', r)) :
    Called s s' :=
  ⟨pollAcquire_closed_eq h, fun w => (w.pollAcquire h).1⟩

theorem Called.dropAcquire (s : Sem) (me : Nat) : Called s (s.dropAcquire me) :=
  ⟨dropAcquire_closed s me, fun w => (w.dropAcquire me).1⟩

theorem Called.addPermits (s : Sem) (n : Nat) : Called s (s.addPermits n) :=
  ⟨rfl, fun w => w.addPermits n⟩

/-- a poll followed by dropping the future (deadline) -/
theorem Called.pollDrop {s s' : Sem} {me : Nat} {r : PollRes} (h : s.pollAcquire me = (s', r)) :
    Called s (s'.dropAcquire me) :=
  (Called.pollAcquire h).trans (Called.dropAcquire s' me)

end Sem
end DeadpoolVerif
