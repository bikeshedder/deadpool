/-
What a step leaves alone.  `max_size`, the closed flag and the slots mutex belong to `resize` /
`close`: no other operation writes them, none but the step in which a resize takes the mutex
moves `max_size` or the flag or raises the ghost `debt`, and the idle queue grows only by a
return that finds `size ≤ max_size` (`Frame`, `Fires.frame`).  That one step is described branch
by branch (`stepResize_close`, `stepResize_lock_closed`, `stepResize_lock_open`).
-/
import DeadpoolVerif.Lemmas.GetStep

namespace DeadpoolVerif

theorem setOp_ops (s : State) (i : Nat) (x : Op) : (s.setOp i x).ops = s.ops.set i x := rfl
theorem emit_ops (s : State) (es : List Ev) : (s.emit es).ops = s.ops := rfl

/-- the step in which `resize` / `close` takes the slots mutex -/
def Op.atLock : Op → Bool
  | .resize _ _ .lock _ => true
  | _ => false

theorem Op.eq_of_atLock {y : Op} (h : y.atLock = true) : ∃ n c old, y = .resize n c .lock old := by
  unfold Op.atLock at h
  split at h
  · exact ⟨_, _, _, rfl⟩
  · cases h

/-- the operation is a `resize` / `close` (as a weight, so that "none in flight" is a sum) -/
def Op.rzW : Op → Nat
  | .resize .. => 1
  | _ => 0

/-- What the step of operation `i`, which was `y`, leaves alone. -/
structure Frame (s s' : State) (i : Nat) (y : Op) : Prop where
  cfg : s'.cfg = s.cfg
  /-- only entry `i` of `ops` is replaced, and not by a resize unless it was one -/
  ops : ∃ x, s'.ops = s.ops.set i x ∧ x.rzW ≤ y.rzW
  max : y.atLock = false → s'.maxSize = s.maxSize
  closed : y.atLock = false → s'.sem.closed = s.sem.closed
  debt : y.atLock = false → s'.debt ≤ s.debt
  /-- the mutex is taken at `resize.lock` only, and only a resize gives it back -/
  lock : y.atLock = false → s'.lock = s.lock ∨ (y.rzW = 1 ∧ s'.lock = none)
  idle : s'.idle.length ≤ s.idle.length ∨ ∃ o, y = .ret .lock o ∧ s.size ≤ s.maxSize

theorem stepGet_frame {s s' : State} {i : Nat} {t : Timeouts} {pc : GPc} {oc : Outcome}
    (hs : stepGet s i t pc oc = some s') : Frame s s' i (.get t pc) := by
  obtain ⟨fr, x, _, _, _, _, a, st, hsem⟩ := stepGet_spec hs
  have hc : s'.sem.closed = s.sem.closed := by
    rcases hsem with ⟨-, -, h, -⟩ | ⟨-, c⟩
    · rw [h]
    · exact c.closed
  have hr : x.rzW = 0 := by rcases st.next with rfl | ⟨_, rfl⟩ <;> rfl
  exact ⟨fr.cfg, ⟨x, a.ops, Nat.le_of_eq hr⟩, fun _ => fr.max, fun _ => hc,
    fun _ => Nat.le_of_eq fr.debt, fun _ => .inl fr.lock, .inl fr.idle.length_le⟩

/-- a leaf of a step function that touches none of the framed fields, or lowers `debt` -/
macro "frame_leaf" : tactic => `(tactic|
  exact ⟨rfl, ⟨_, rfl, Nat.le_refl _⟩, fun _ => rfl, fun _ => rfl,
    fun _ => by first | exact Nat.le_refl _ | exact Nat.sub_le _ _,
    fun _ => .inl rfl, .inl (Nat.le_refl _)⟩)

theorem stepRet_frame {s s' : State} {i : Nat} {pc : RPc} {o : Obj}
    (hs : stepRet s i pc o = some s') : Frame s s' i (.ret pc o) := by
  cases pc
  all_goals leaves [stepRet] at hs
  case lock.isFalse.isTrue h =>
    exact ⟨rfl, ⟨_, rfl, Nat.le_refl _⟩, fun _ => rfl, fun _ => rfl,
      fun _ => Nat.le_refl _, fun _ => .inl rfl, .inr ⟨_, rfl, h⟩⟩
  all_goals frame_leaf

/-! The one step that is not framed: `resize` / `close` taking the mutex, in its three branches. -/

theorem stepResize_close {s s' : State} {i n old : Nat}
    (hs : stepResize s i n true .lock old = some s') :
    s.lock = none ∧
    s' = (({ s with sem := s.sem.close, maxSize := 0, idle := [], size := s.size - s.idle.length,
                    fault := decFault s.fault s.size s.idle.length,
                    debt := s.debt + s.maxSize }).setOp i .done).emit
      (drainEvs i s.idle ++ [Ev.closedEv i]) := by
  simp only [stepResize] at hs
  split at hs
  · cases hs
  · exact ⟨‹_›, (Option.some.inj hs).symm⟩

/-- on a closed pool `resize` does nothing: the flag is read under the mutex -/
theorem stepResize_lock_closed {s s' : State} {i n old : Nat} (hc : s.sem.closed = true)
    (hs : stepResize s i n false .lock old = some s') :
    s.lock = none ∧ s' = (s.setOp i .done).emit [.resized i n] := by
  simp only [stepResize] at hs
  split at hs
  · cases hs
  · simp only [hc] at hs
    exact ⟨‹_›, (Option.some.inj hs).symm⟩

/-- `resize(n)` has taken the mutex of an open pool: the new limit is in force, what a shrink has
still to collect is booked as `debt`, and the mutex is kept unless there is nothing to do -/
structure ResizeLocked (s s' : State) (i n : Nat) : Prop where
  free : s.lock = none
  cfg : s'.cfg = s.cfg
  sem : s'.sem = s.sem
  idle : s'.idle = s.idle
  max : s'.maxSize = n
  debt : s'.debt = s.debt + (s.maxSize - n)
  lock : s'.lock = if n = s.maxSize then none else some i

theorem stepResize_lock_open {s s' : State} {i n old : Nat} (hc : s.sem.closed = false)
    (hs : stepResize s i n false .lock old = some s') : ResizeLocked s s' i n := by
  simp only [stepResize] at hs
  split at hs
  · cases hs
  · simp only [Bool.false_eq_true, if_false, hc] at hs
    repeat' split at hs
    all_goals cases hs
    all_goals refine ⟨‹_›, rfl, rfl, rfl, rfl, rfl, ?_⟩
    all_goals (split <;> first | rfl | omega)

theorem stepResize_frame {s s' : State} {i n old : Nat} {c : Bool} {pc : ZPc}
    (hy : s.ops[i]? = some (.resize n c pc old))
    (hs : stepResize s i n c pc old = some s') : Frame s s' i (.resize n c pc old) := by
  have fin : ∀ s1 : State, s1.cfg = s.cfg → s1.ops = s.ops → s1.maxSize = s.maxSize →
      s1.sem.closed = s.sem.closed → s1.debt = s.debt → s1.idle = s.idle →
      Frame s (finishResize s1 i n) i (.resize n c pc old) := fun s1 h1 h2 h3 h4 h5 h6 =>
    ⟨h1, ⟨_, congrArg (·.set i .done) h2, Nat.zero_le _⟩, fun _ => h3, fun _ => h4,
      fun _ => Nat.le_of_eq h5, fun _ => .inr ⟨rfl, rfl⟩, .inl (Nat.le_of_eq (congrArg _ h6))⟩
  cases pc
  · leaves [stepResize] at hs
    frame_leaf
  · -- `lock`: only `cfg`, `ops` and `idle` are claimed
    leaves [stepResize] at hs
    all_goals refine ⟨rfl, ⟨_, rfl, ?_⟩, nofun, nofun, nofun, nofun, .inl ?_⟩
    all_goals first | exact Nat.le_refl _ | exact Nat.zero_le _
  · -- `shrink`: one permit forgotten (the operation stays where it is), or done
    leaves [stepResize] at hs
    all_goals first
      | exact fin _ rfl rfl rfl rfl rfl rfl
      | (refine ⟨rfl, ⟨_, (set_self hy).symm, Nat.le_refl _⟩, fun _ => rfl,
          fun _ => Sem.tryAcquire_closed_eq ‹_›, fun _ => Nat.sub_le _ _, fun _ => .inl rfl, .inl ?_⟩
         first | exact Nat.le_refl _ | (rw [‹s.idle = _›]; exact Nat.le_succ _))
  · leaves [stepResize] at hs
    exact fin _ rfl rfl rfl rfl rfl rfl

theorem Fires.frame {s s' : State} {i : Nat} {oc : Outcome} {y : Op} (f : Fires s i oc s' y)
    (hy : s.ops[i]? = some y) : Frame s s' i y := by
  cases f with
  | get h => exact stepGet_frame h
  | ret h => exact stepRet_frame h
  | take h => leaves [stepTake] at h; all_goals frame_leaf
  | resize h => exact stepResize_frame hy h
  | @retain keep h =>
    leaves [stepRetain] at h
    exact ⟨rfl, ⟨_, rfl, Nat.le_refl _⟩, fun _ => rfl, fun _ => rfl,
      fun _ => Nat.le_refl _, fun _ => .inl rfl, .inl (Nat.le.intro (retain_length keep 0 s.idle))⟩
  | status h => leaves [stepStatus] at h; frame_leaf
  | retPanic h | takePanic h => cases h; frame_leaf

/-- **What a step does to the control fields.**  It is framed (`Frame`: not the step in which a
resize takes the mutex), or it is that step, in one of its three branches: `close()`, a `resize`
that finds the pool closed, a `resize` on an open pool. -/
inductive Ctrl (s s' : State) (i : Nat) : Op → Prop
  | framed {y} (hl : y.atLock = false) (e : Frame s s' i y) : Ctrl s s' i y
  | close {n old} (free : s.lock = none)
      (e : s' = (({ s with sem := s.sem.close, maxSize := 0, idle := [],
                           size := s.size - s.idle.length,
                           fault := decFault s.fault s.size s.idle.length,
                           debt := s.debt + s.maxSize }).setOp i .done).emit
        (drainEvs i s.idle ++ [Ev.closedEv i])) : Ctrl s s' i (.resize n true .lock old)
  | lockClosed {n old} (hc : s.sem.closed = true) (free : s.lock = none)
      (e : s' = (s.setOp i .done).emit [.resized i n]) : Ctrl s s' i (.resize n false .lock old)
  | lockOpen {n old} (hc : s.sem.closed = false) (e : ResizeLocked s s' i n) :
      Ctrl s s' i (.resize n false .lock old)

theorem Fires.ctrl {s s' : State} {i : Nat} {oc : Outcome} {y : Op} (f : Fires s i oc s' y)
    (hy : s.ops[i]? = some y) : Ctrl s s' i y := by
  cases hl : y.atLock with
  | false => exact .framed hl (f.frame hy)
  | true =>
    obtain ⟨n, c, old, rfl⟩ := Op.eq_of_atLock hl
    cases f with | resize h =>
    cases c with
    | true => exact .close (stepResize_close h).1 (stepResize_close h).2
    | false =>
      cases hc : s.sem.closed with
      | true => exact .lockClosed hc (stepResize_lock_closed hc h).1 (stepResize_lock_closed hc h).2
      | false => exact .lockOpen hc (stepResize_lock_open hc h)

end DeadpoolVerif
