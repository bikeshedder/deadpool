/-
C08 — reuse order follows the queue mode; creation is lazy; no background work.
-/
import DeadpoolVerif.Lemmas.ObjInv
import DeadpoolVerif.Lemmas.Log

namespace DeadpoolVerif

/-- **C08 (the idle queue is ordered by idle time).** In every reachable state — however
returns, rejected objects, retain() calls, takes, resizes were interleaved before — the
idle queue lists the objects in the order in which they were returned: earlier positions
have been idle at least as long. -/
theorem C08_idle_ordered (cfg : Cfg) (acts : List Action) :
    (run (init cfg) acts).idle.Pairwise (fun a b => a.idleSince ≤ b.idleSince) :=
  (run_objinv cfg acts).sorted

/-- **C08 (Fifo offers the object idle longest, Lifo the one returned most recently).**
The object a get() takes out of the queue to try is, among all idle objects, one with the
smallest (Fifo) / largest (Lifo) return time. -/
theorem C08_queue_mode (cfg : Cfg) (acts : List Action) (o : Obj) (rest : List Obj)
    (hp : popIdle (run (init cfg) acts).cfg.mode (run (init cfg) acts).idle = some (o, rest)) :
    ((run (init cfg) acts).cfg.mode = .fifo → ∀ x ∈ (run (init cfg) acts).idle, o.idleSince ≤ x.idleSince) ∧
    ((run (init cfg) acts).cfg.mode = .lifo → ∀ x ∈ (run (init cfg) acts).idle, x.idleSince ≤ o.idleSince) := by
  have hs := C08_idle_ordered cfg acts
  -- the popped object is the head (Fifo) or the last element (Lifo) of a sorted queue
  rcases popIdle_eq_some.mp hp with ⟨hm, hi⟩ | ⟨hm, hi⟩
  · rw [hi] at hs ⊢
    exact ⟨fun _ => List.forall_mem_cons.mpr ⟨Nat.le_refl _, (List.pairwise_cons.mp hs).1⟩,
      fun h => nomatch hm.symm.trans h⟩
  · rw [hi] at hs ⊢
    exact ⟨(fun h => nomatch hm.symm.trans h), fun _ => forall_mem_append_single
      (fun x hx => (List.pairwise_append.mp hs).2.2 x hx o (List.mem_singleton_self o)) (Nat.le_refl _)⟩

/-- a returned object goes to the back of the queue; nothing else is reordered -/
theorem C08_return_appends (s s' : State) (i : Nat) (o : Obj) (hl : s.lockFree i = true)
    (hsz : s.size ≤ s.maxSize) (h : stepRet s i .lock o = some s') :
    s'.idle = s.idle ++ [{ o with idleSince := s.now }] := by
  simp only [stepRet, hl, Bool.not_true, Bool.false_eq_true, if_false, hsz, if_true,
    Option.some.injEq] at h
  subst h; rfl

/-- **C08 (creation is lazy).** `Manager::create` is called only by the step of a get()
that just looked into the idle queue (under the mutex) and found it empty. -/
theorem C08_lazy_create (s s' : State) (i : Nat) (oc : Outcome)
    (h : stepOp s i oc = some s') (hc : ∃ j, Ev.createCall j ∈ s'.log ∧ Ev.createCall j ∉ s.log) :
    ∃ t, s.ops[i]? = some (.get t .pop) ∧ oc = .run ∧ s.idle = [] ∧
      s'.log = s.log ++ [.createCall i] := by
  obtain ⟨j, hin, hnot⟩ := hc
  obtain ⟨y, hy, f⟩ := stepOp_fires h
  -- only the pop that finds the queue empty logs a `createCall`
  rcases f.get_or_nonget with ⟨t, pc, rfl, hg⟩ | hng
  · obtain ⟨-, x, es, _, _, _, a, st, -⟩ := stepGet_spec hg
    rw [a.log] at hin ⊢
    have hin := (List.mem_append.mp hin).resolve_left hnot
    cases st <;> simp only [List.mem_cons, List.not_mem_nil, or_false, reduceCtorEq] at hin
    exact ⟨_, hy, rfl, ‹_›, rfl⟩
  · obtain ⟨-, x, es, -, hes, -, hno⟩ := f.nonget hy hng
    rw [hes] at hin
    exact absurd rfl ((hno _ ((List.mem_append.mp hin).resolve_left hnot)).2 j)

/-- **C08 (building a pool calls nothing; nothing happens in the background).** The log of
a freshly built pool is empty, and the log only ever grows by the events of a step of some
get / return / take / retain / resize / close / status operation: there is no transition
without an operation. -/
theorem C08_no_background (cfg : Cfg) :
    (init cfg).log = [] ∧ (run (init cfg) []).log = [] ∧
    (∀ s a s', step s a = some s' → ∃ es, s'.log = s.log ++ es) ∧
    (∀ s sp s', startOp s sp = some s' → s'.log = s.log) :=
  ⟨rfl, rfl, fun _ _ _ h => (step_cfg_log h).2, fun _ _ _ h => by
    obtain ⟨_, -, -, rfl⟩ := startOp_spec h; rfl⟩

end DeadpoolVerif
