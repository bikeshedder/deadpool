/-
C19 — redis configs are unambiguous; conversions and serialisation are lossless.
-/
import DeadpoolVerif.Model.RedisConfig
import Std.Data.String.ToNat

namespace DeadpoolVerif
namespace Rd

/-- **C19 (the decision).** A Config naming both urls and connection structures is rejected
with `UrlAndConnectionSpecified`; one naming neither uses the default local server;
otherwise exactly the named ones are used — for the standalone, cluster and sentinel
flavours (`α`, `β` are a url / a connection or lists of them). -/
theorem C19_decision {α β : Type} (urls : Option α) (conns : Option β) :
    (decide urls conns = .urlAndConnectionSpecified ↔ urls.isSome ∧ conns.isSome) ∧
    (decide urls conns = .useDefault ↔ urls = none ∧ conns = none) ∧
    (∀ u, decide urls conns = .useUrls u ↔ urls = some u ∧ conns = none) ∧
    (∀ c, decide urls conns = .useConnections c ↔ urls = none ∧ conns = some c) := by
  cases urls <;> cases conns <;> simp [decide]

/-- **C19 (builder).** What `builder()` / `create_pool()` of any flavour does with any Config:
both given → `UrlAndConnectionSpecified` whatever else is wrong; neither → the default local
server; only urls → an error if one is malformed (or the redis crate refuses the list), else
exactly the urls' servers; only connections → exactly those; the pool section reaches the pool,
its absence means the default size. -/
theorem C19_builder (urls : Option (List (Option Server))) (conns : Option (List Server))
    (au ac : Bool) (pool : Option Nat) (d : Nat) :
    (urls.isSome ∧ conns.isSome → builder urls conns au ac pool d = .errBoth) ∧
    (urls = none ∧ conns = none → builder urls conns au ac pool d = .ok [.dflt] (pool.getD d)) ∧
    (∀ us, urls = some us → conns = none →
        ((∃ u ∈ us, u = none) → builder urls conns au ac pool d = .errRedis) ∧
        ((∀ u ∈ us, u ≠ none) → au = true →
            builder urls conns au ac pool d = .ok (us.filterMap id) (pool.getD d))) ∧
    (∀ cs, urls = none → conns = some cs → ac = true →
        builder urls conns au ac pool d = .ok cs (pool.getD d)) ∧
    (builder urls conns au ac pool d = .errBoth → urls.isSome ∧ conns.isSome) := by
  refine ⟨?_, ?_, ?_, ?_, ?_⟩
  · cases urls <;> cases conns <;> simp [builder, decide]
  · rintro ⟨rfl, rfl⟩; simp [builder, decide]
  · rintro us rfl rfl
    constructor
    · rintro ⟨u, hu, rfl⟩
      have : us.all Option.isSome = false := by
        rw [List.all_eq_false]; exact ⟨none, hu, by simp⟩
      simp [builder, decide, this]
    · intro h hau
      have : us.all Option.isSome = true := by
        rw [List.all_eq_true]; intro u hu
        cases u with
        | none => exact absurd rfl (h none hu)
        | some _ => rfl
      simp [builder, decide, this, hau]
  · rintro cs rfl rfl rfl; simp [builder, decide]
  · cases urls <;> cases conns <;> simp [builder, decide] <;> (try split) <;> simp

/-- a malformed url never yields a pool (and never anything but a configuration error) -/
theorem C19_malformed_url (us : List (Option Server)) (conns : Option (List Server))
    (au ac : Bool) (pool : Option Nat) (d : Nat) (h : none ∈ us) :
    builder (some us) conns au ac pool d = .errRedis ∨ builder (some us) conns au ac pool d = .errBoth := by
  have hb := C19_builder (some us) conns au ac pool d
  cases conns with
  | none => exact Or.inl ((hb.2.2.1 us rfl rfl).1 ⟨none, h, rfl⟩)
  | some cs => exact Or.inr (hb.1 ⟨rfl, rfl⟩)

theorem C19_addr_roundtrip (a : Addr) : a.toRedis.toOurs = a := by cases a <;> rfl

/-- **C19 (conversions preserve everything).** Converting a connection description to the
redis crate's type and back gives the original: address (host, port, insecure flag, socket
path), database, username, password and protocol are all preserved. -/
theorem C19_conv_roundtrip (i : Info) : i.toRedis.toOurs = i :=
  congrArg (Info.mk · i.redis) (C19_addr_roundtrip i.addr)

/-- the other direction loses exactly `tls_params` -/
theorem C19_conv_roundtrip_redis (i : RedisInfo) :
    i.toOurs.toRedis = { i with addr := i.addr.eraseTls } := by
  cases i with
  | mk addr r => cases addr <;> rfl

theorem C19_node_info_roundtrip (n : NodeInfo) : n.conv.conv = n := rfl

/-- **C19 (sentinel: the description of the monitored servers is used on every route).** However
the sentinels are named - by urls, by connection structures, or not at all - the manager is
built with the configured `node_connection_info`, so the connections to the monitored server
authenticate with its username / password and select its database exactly as a direct
conversion of it would (nothing is dropped on one of the routes); no manager is built only
when both urls and connections are given. -/
theorem C19_sentinel_node {α β : Type} (urls : Option α) (conns : Option β) (node : Option NodeInfo) :
    (¬ (urls.isSome ∧ conns.isSome) →
      sentinelNode urls conns node = some (node.map NodeInfo.conv) ∧
      ∀ n', sentinelNode urls conns node = some n' → nodeWire n' = nodeWire node) ∧
    (urls.isSome ∧ conns.isSome → sentinelNode urls conns node = none) := by
  have hw : nodeWire (node.map NodeInfo.conv) = nodeWire node := by
    cases node <;> rfl
  cases urls <;> cases conns <;> simp [sentinelNode, decide, hw]

/-- not vacuous: credentials and database of a node description reach the wire -/
example :
    nodeWire (some ⟨none, some ⟨5, some "u", some "p", .resp2⟩⟩) =
      { auth := some (some "u", "p"), db := 5 } := rfl

/-- address, database, username, password and protocol survive each single conversion -/
theorem C19_conv_fields (i : Info) :
    i.toRedis.redis = i.redis ∧
    (∀ h p, i.addr = .tcp h p → i.toRedis.addr = .tcp h p) ∧
    (∀ h p s, i.addr = .tcpTls h p s → i.toRedis.addr = .tcpTls h p s false) ∧
    (∀ p, i.addr = .unix p → i.toRedis.addr = .unix p) :=
  ⟨rfl, fun _ _ => congrArg Addr.toRedis, fun _ _ _ => congrArg Addr.toRedis, fun _ => congrArg Addr.toRedis⟩

/-! The serialised form is read back layer by layer; the typed and the string-typed rendering
differ only in how a number leaf is written (`e`) and in how `None` is (`null` / key absent). -/

@[simp] theorem asNum_str (n : Nat) : asNum true (.str n.repr) = some n :=
  Nat.toNat?_repr n

theorem decOptDur_obj (st : Bool) (e : Nat → Tree) (he : ∀ n, asNum st (e n) = some n) (d : Dur) :
    decOptDur st (some (.obj [("secs", e d.secs), ("nanos", e d.nanos)])) = some (some d) := by
  simp [decOptDur, decDur, Tree.get, he]

theorem decodeWith_obj (st : Bool) (em tt : Tree) (m : Nat) (ts : Timeouts) (q : QueueMode)
    (hm : asNum st em = some m) (ht : decTimeouts st tt = some ts) :
    decodeWith st (.obj [("max_size", em), ("timeouts", tt), ("queue_mode", encQueueMode q)]) =
      some { maxSize := m, timeouts := ts, queueMode := q } := by
  cases q <;> simp [decodeWith, Tree.get, hm, ht, encQueueMode, decQueueMode]

/-- **C19 (serialisation round trip).** Every `PoolConfig` — any `max_size`, any durations
(the full `secs` / `nanos` range: they are unbounded naturals here), both queue modes —
deserialises from its own serialised form to itself. -/
theorem C19_serde_roundtrip (p : PoolConfig) : decode (encode p) = some p := by
  have hd : ∀ d, decOptDur false (some (encOptDur d)) = some d := fun d => by
    cases d with
    | none => rfl
    | some d => exact decOptDur_obj false .num (fun _ => rfl) d
  exact decodeWith_obj false _ _ _ _ _ rfl (by simp [decTimeouts, encTimeouts, Tree.get, hd])

/-- omitted sections take the documented defaults: no timeouts, `Fifo` -/
theorem C19_serde_defaults (m : Nat) :
    decode (.obj [("max_size", .num m)]) = some { maxSize := m } := by
  simp [decode, decodeWith, asNum, Tree.get]

theorem C19_serde_partial_timeouts (m : Nat) (d : Dur) :
    decode (.obj [("max_size", .num m), ("timeouts", .obj [("wait", encDur d)])]) =
      some { maxSize := m, timeouts := { wait := some d } } := by
  simp [decode, decodeWith, asNum, Tree.get, decTimeouts, decOptDur, decDur, encDur]

/-- **C19 (string-typed sources).** The environment-style rendering — every leaf a string,
unset timeouts simply absent — is read back to the same `PoolConfig`. -/
theorem C19_serde_roundtrip_stringly (p : PoolConfig) : decodeWith true (encodeStr p) = some p := by
  have hd : ∀ d : Option Dur, decOptDur true (d.map encDurStr) = some d := fun d => by
    cases d with
    | none => rfl
    | some d => exact decOptDur_obj true (fun n => .str (toString n)) asNum_str d
  -- a key is present exactly when its timeout is set
  have hg : (encTimeoutsStr p.timeouts).get "wait" = p.timeouts.wait.map encDurStr ∧
      (encTimeoutsStr p.timeouts).get "create" = p.timeouts.create.map encDurStr ∧
      (encTimeoutsStr p.timeouts).get "recycle" = p.timeouts.recycle.map encDurStr := by
    rcases p.timeouts with ⟨_ | w, _ | c, _ | r⟩ <;> simp [encTimeoutsStr, Tree.get]
  exact decodeWith_obj true _ _ _ _ _ (asNum_str _) (by simp [decTimeouts, hg, hd])

/-! Non-vacuity -/
example : decode (encode { maxSize := 16, timeouts := { wait := some ⟨5, 999999999⟩ }, queueMode := .lifo }) =
    some { maxSize := 16, timeouts := { wait := some ⟨5, 999999999⟩ }, queueMode := .lifo } := by
  decide

/-- **C19 (whole configs read from a document).** For the three flavours: deserialising a
document conjures nothing - a `url(s)` / `connection(s)` / `pool` key that is absent stays
absent - so a document naming only urls yields a config that uses exactly those, one naming
only connections exactly those, one naming neither the default server; and every other omitted
key takes its documented default (`read_from_replicas = false`, `server_type = master`,
`master_name = "mymaster"`), a given one its value. -/
theorem C19_whole_defaults (f : Flavour) (d : WholeDoc) :
    ((decodeWhole f d).urls = d.urls ∧ (decodeWhole f d).conns = d.conns ∧
      (decodeWhole f d).pool = d.pool) ∧
    (d.flag = none → (decodeWhole f d).flag = false) ∧
    (∀ b, d.flag = some b → (decodeWhole f d).flag = b) ∧
    (f = .sentinel → d.name = none → (decodeWhole f d).name = "mymaster") ∧
    (∀ n, f = .sentinel → d.name = some n → (decodeWhole f d).name = n) ∧
    (d.urls = true → d.conns = false → (decodeWhole f d).decision = .useUrls ()) ∧
    (d.urls = false → d.conns = true → (decodeWhole f d).decision = .useConnections ()) ∧
    (d.urls = false → d.conns = false → (decodeWhole f d).decision = .useDefault) ∧
    (d.urls = true → d.conns = true →
      (decodeWhole f d).decision = .urlAndConnectionSpecified) := by
  -- the flag and the name are `getD` of their keys; the decision looks at the keys `urls` and `conns` only
  have hflag : ∀ o, d.flag = o → (decodeWhole f d).flag = o.getD false := fun _ h => h ▸ rfl
  have hname : ∀ o, f = .sentinel → d.name = o → (decodeWhole f d).name = o.getD "mymaster" :=
    fun _ hf h => hf ▸ h ▸ rfl
  have hdec : ∀ u c, d.urls = u → d.conns = c → (decodeWhole f d).decision =
      decide (if u then some () else none) (if c then some () else none) := fun _ _ hu hc => hu ▸ hc ▸ rfl
  exact ⟨⟨rfl, rfl, rfl⟩, hflag _, fun _ => hflag _, hname _, fun _ => hname _,
    hdec _ _, hdec _ _, hdec _ _, hdec _ _⟩

/-- not vacuous: the empty sentinel document -/
example : decodeWhole .sentinel {} = ⟨false, false, none, false, "mymaster"⟩ := rfl

end Rd
end DeadpoolVerif
