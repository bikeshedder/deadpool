/-
C12 — unmanaged pool calls never panic and close() is final.
Also the unmanaged pool's single timeout (last clause of C10).
-/
import DeadpoolVerif.Lemmas.UAcct
import DeadpoolVerif.Lemmas.UEmpty

namespace DeadpoolVerif
namespace U

/-- **C12 (no panic).** In every reachable state of the unmanaged pool — all thread-level
interleavings of close() with every other operation in every phase — no checked
subtraction has underflowed and no `unwrap` has failed: the calls never panic. -/
theorem C12_no_fault (cfg : Cfg) (hc : cfg.initial ≤ cfg.maxSize) (acts : List Action) :
    (run (init cfg) acts).fault = none :=
  (run_acct cfg hc acts).nf

/-- while the pool is open, a getter that holds a permit always finds an object to pop
(the `pop()` can only come back empty after a close(), where the fixed code answers
`Closed`) -/
theorem C12_pop_finds_object (cfg : Cfg) (hc : cfg.initial ≤ cfg.maxSize) (acts : List Action)
    (i : Nat) (w : Tmo) (t r : Bool)
    (hop : (run (init cfg) acts).ops[i]? = some (.get w t r .pop))
    (ho : (run (init cfg) acts).sem.closed = false) :
    0 < (run (init cfg) acts).queue.length := by
  have h := ((run_acct cfg hc acts).open_ ho).1
  have b : 1 ≤ _ := sumW_mem_le Op.popW hop
  omega

/-- **C12 (every call ends with a value or a documented error).** The acquisition step of
any get / remove variant on a closed pool yields `Closed` — whether it is a fresh call, a
caller that was waiting (woken by close), a re-poll or an expiring timeout — and the pop
step answers `Closed` if the queue was cleared under it. -/
theorem C12_get_after_close (s s' : State) (i : Nat) (w : Tmo) (t r : Bool) (pc : GPc) (oc : Outcome)
    (hc : s.sem.closed = true) (hpc : pc = .start ∨ pc = .queued)
    (h : stepGet s i w t r pc oc = some s') :
    (∃ res, s'.log = s.log ++ [.result i res] ∧
      (res = .closed none ∨ res = .noRuntime ∨ res = .cancelled)) ∧ s'.hands = s.hands := by
  rcases hpc with rfl | rfl <;> cases oc <;>
    simp only [stepGet, Sem.tryAcquire_of_closed hc, Sem.pollAcquire_of_closed _ hc, reduceCtorEq] at h
  repeat' split at h
  all_goals cases h
  all_goals exact ⟨⟨_, rfl, by simp⟩, rfl⟩

/-- **C12 (add on a closed pool hands the object back).** -/
theorem C12_add_after_close (s s' : State) (i id : Nat) (t : Bool) (pc : APc)
    (hc : s.sizeSem.closed = true) (hpc : pc = .start ∨ pc = .queued)
    (h : stepAdd s i id t pc .run = some s') :
    s'.returned = s.returned ++ [id] ∧ s'.queue = s.queue ∧
    s'.log = s.log ++ [.result i (.closed (some id))] := by
  rcases hpc with rfl | rfl <;>
    simp only [stepAdd, Sem.tryAcquire_of_closed hc, Sem.pollAcquire_of_closed _ hc] at h
  repeat' split at h
  all_goals cases h
  all_goals exact ⟨rfl, rfl, rfl⟩

/-- close() is final: once the semaphores are closed they stay closed (every `Sem`
operation preserves the flag), and closing wakes every waiting getter and adder -/
theorem C12_close_wakes (s s1 s2 : State) (i : Nat)
    (h1 : stepClose s i .sem = some s1) (h2 : stepClose s1 i .sizeSem = some s2) :
    s2.sem.closed = true ∧ s2.sem.queue = [] ∧ s2.sizeSem.closed = true ∧ s2.sizeSem.queue = [] := by
  cases h1
  cases h2
  exact ⟨rfl, rfl, rfl, rfl⟩

/-- **C12 (a closed pool at rest holds no objects).** When the pool is closed and no
operation is in progress, the queue is empty: whatever was in it or came back to it has
been dropped. -/
theorem C12_closed_pool_is_empty (cfg : Cfg) (hc : cfg.initial ≤ cfg.maxSize) (acts : List Action)
    (hd : ∀ op ∈ (run (init cfg) acts).ops, op = Op.done)
    (hclosed : (run (init cfg) acts).sem.closed = true) :
    (run (init cfg) acts).queue = [] :=
  (run_empty cfg acts).closedEmpty hclosed (sumW_eq_zero_iff.mpr fun x hx => by rw [hd x hx]; rfl)

/-- **C12 (returned later = dropped).** An object whose return begins on a closed pool is
dropped at once: it never enters the queue, so nobody — not even a `get()` that obtained its
permit before `close()` — can be handed it; `size` drops by one, nothing else changes.  (The
pinned code pushed it first and cleaned up afterwards, leaving a window in which such a getter
popped it: repaired, see known_findings.txt.) -/
theorem C12_return_after_close_dropped (s s' : State) (i id : Nat)
    (hc : s.sem.closed = true) (h : stepRet s i id .push = some s') :
    s'.queue = s.queue ∧ s'.hands = s.hands ∧ s'.dropped = s.dropped ++ [id] ∧
    s'.size = s.size - 1 ∧ s'.sem = s.sem ∧ s'.sizeSem = s.sizeSem ∧ s'.available = s.available ∧
    s'.ops = s.ops.set i .done ∧ s'.log = s.log ++ [.dropped i id] := by
  simp only [stepRet, hc, if_true, Option.some.injEq] at h
  subst h
  exact ⟨rfl, rfl, rfl, rfl, rfl, rfl, rfl, rfl, rfl⟩

/-- on an open pool the return goes the usual way: the object is queued first -/
theorem C12_return_open_queues (s s' : State) (i id : Nat)
    (hc : s.sem.closed = false) (h : stepRet s i id .push = some s') :
    s'.queue = s.queue ++ [id] ∧ s'.dropped = s.dropped := by
  simp only [stepRet, hc, Bool.false_eq_true, if_false, Option.some.injEq] at h
  subst h
  exact ⟨rfl, rfl⟩

/-- **C10 (unmanaged timeout).** The unmanaged pool's single timeout follows the same rules
as the managed pool's wait timeout: zero → never waits (`Timeout` at once if no object is
available, `Closed` if closed); finite without runtime → `NoRuntimeSpecified` before the
semaphore is touched; finite with runtime → `Timeout` when the deadline passes without an
object, while an object handed over before the deadline wins. -/
theorem C10_unmanaged_timeout (s s' : State) (i : Nat) (r : Bool) :
    (stepGet s i .zero false r .start .run = some s' → s.sem.closed = false → s.sem.permits = 0 →
      s'.log = s.log ++ [.result i (.timeout none)] ∧ s'.sem = s.sem ∧ s'.available = s.available) ∧
    (stepGet s i .finite false r .start .run = some s' → s.cfg.rt = false →
      s'.log = s.log ++ [.result i .noRuntime] ∧ s'.sem = s.sem ∧ s'.available = s.available) ∧
    (stepGet s i .finite false r .queued .deadline = some s' → s.cfg.rt = true →
      s.sem.closed = false → i ∈ s.sem.assigned →
      s'.ops = s.ops.set i (.get .finite false r .pop)) ∧
    (stepGet s i .finite false r .queued .deadline = some s' → s.cfg.rt = true →
      s.sem.closed = false → i ∉ s.sem.assigned → s.sem.permits = 0 →
      s'.log = s.log ++ [.result i (.timeout none)] ∧ s'.available = s.available + 1) := by
  refine ⟨fun h hc hp => ?_, fun h hrt => ?_, fun h hrt hc ha => ?_, fun h hrt hc ha hp => ?_⟩
  · simp only [stepGet, Sem.tryAcquire_of_empty hc hp, Bool.false_eq_true, if_false, BEq.rfl, if_true] at h
    cases h
    exact ⟨rfl, rfl, rfl⟩
  · simp [stepGet, hrt] at h
    subst h; exact ⟨rfl, rfl, rfl⟩
  · simp only [stepGet, Sem.pollAcquire_of_assigned hc ha, hrt, Bool.false_eq_true, if_false, BEq.rfl,
      Bool.and_self, if_true] at h
    cases h
    rfl
  · obtain ⟨sem1, h1⟩ := Sem.pollAcquire_of_empty hc ha hp
    simp only [stepGet, h1, hrt, Bool.false_eq_true, if_false, BEq.rfl, Bool.and_self, if_true] at h
    cases h
    exact ⟨rfl, rfl⟩

end U
end DeadpoolVerif
