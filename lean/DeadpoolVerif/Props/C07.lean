/-
C07 — resize() makes the new limit effective in both directions.

The pinned code does NOT satisfy the full property (genuine defect, recorded as a known
finding, see known_findings.txt / DESIGN.md): a shrink can only remove the capacity tokens
that happen to be free; the rest stays in circulation (ghost `debt`) and is only collected
when a surplus object comes back.  This file keeps the full-strength statement visible
(`C07Full`), proves its negation with two concrete histories that are also replayed on the
real code (`corpus/C07/*.trace`), and proves the part that does hold (`…_partial`): whenever
`debt = 0` the limit is effective, `debt` arises only from a shrink that under-collected,
growing adds exactly the requested capacity, waiters first.
-/
import DeadpoolVerif.Lemmas.GrowOnly
import DeadpoolVerif.Lemmas.Link

namespace DeadpoolVerif

/-- objects of the pool that exist or are being created -/
def State.liveN (s : State) : Nat := s.idle.length + s.out.length + sumW Op.objW s.ops

/-- no resize / close is in progress -/
def State.noResizeRunning (s : State) : Prop := ∀ op ∈ s.ops, Op.rzW op = 0 ∨ op = .done

/-- the action hands an object to a caller -/
def handsOut (s : State) (a : Action) : Bool :=
  match step s a with
  | some s' => s'.out.length == s.out.length + 1
  | none => false

instance (s : State) : Decidable s.noResizeRunning := by
  unfold State.noResizeRunning; infer_instance

/-- **C07, full strength (what the property demands).**  Whenever no resize is in
progress, no get() hands out an object while `max_size` or more objects are already in
callers' hands.  (`C07_full_is_false` shows this is false of the pinned code.) -/
def C07Full : Prop :=
  ∀ (cfg : Cfg) (acts : List Action) (a : Action),
    (run (init cfg) acts).noResizeRunning → handsOut (run (init cfg) acts) a = true →
    (run (init cfg) acts).out.length < (run (init cfg) acts).maxSize

/-- (a) `max_size 1`, nothing created yet, `resize(0)`; a zero-wait get then obtains an object -/
def C07_trace_a : List Action :=
  [ .start (.resize 0), .step 0 .run, .step 0 .run, .step 0 .run,
    .start (.get { wait := .zero }), .step 1 .run, .step 1 .run, .step 1 .run, .step 1 .ok ]

/-- (b) `max_size 2`, two objects out, `resize(1)`, `resize(2)`; a third object is admitted -/
def C07_trace_b : List Action :=
  let g : Spec := .get {}
  [ .start g, .step 0 .run, .step 0 .run, .step 0 .run, .step 0 .ok, .step 0 .run,
    .start g, .step 1 .run, .step 1 .run, .step 1 .run, .step 1 .ok, .step 1 .run,
    .start (.resize 1), .step 2 .run, .step 2 .run, .step 2 .run,
    .start (.resize 2), .step 3 .run, .step 3 .run, .step 3 .run,
    .start (.get { wait := .zero }), .step 4 .run, .step 4 .run, .step 4 .run, .step 4 .ok ]

/-- the pinned code violates the property: after `resize(0)` returned, a get is admitted
and a `create` is running although `max_size = 0` -/
theorem C07_witness_a :
    let s := run (init { maxSize := 1 }) C07_trace_a
    (run? (init { maxSize := 1 }) C07_trace_a).isSome = true ∧ s.maxSize = 0 ∧ s.liveN = 1 ∧
    s.debt = 1 ∧ s.noResizeRunning := by
  decide

theorem C07_witness_b :
    let s := run (init { maxSize := 2 }) (C07_trace_b ++ [.step 4 .run])
    (run? (init { maxSize := 2 }) (C07_trace_b ++ [.step 4 .run])).isSome = true ∧
    s.maxSize = 2 ∧ s.out.length = 3 ∧ s.noResizeRunning := by
  decide

/-- the full-strength property is false of the pinned code -/
theorem C07_full_is_false : ¬ C07Full := by
  intro h
  have := h { maxSize := 2 } C07_trace_b (.step 4 .run) (by decide) (by decide)
  revert this
  decide

/-- **C07 (partial — holds on the pinned code).**  In every reachable state the objects
that exist or are being created never exceed `max_size` plus the capacity a shrink could
not collect yet (`debt`); so whenever `debt = 0` — every shrink found enough free tokens,
or the surplus has come back since — the limit is effective for every admission. -/
theorem C07_live_le_max_plus_debt_partial (cfg : Cfg) (acts : List Action) :
    (run (init cfg) acts).liveN ≤ (run (init cfg) acts).maxSize + (run (init cfg) acts).debt :=
  (run_acct cfg acts).live_le

theorem C07_effective_when_collected_partial (cfg : Cfg) (acts : List Action)
    (h : (run (init cfg) acts).debt = 0) :
    (run (init cfg) acts).liveN ≤ (run (init cfg) acts).maxSize := by
  have := C07_live_le_max_plus_debt_partial cfg acts
  rwa [h] at this

/-- `status().max_size` is the target as soon as the resize has taken the mutex, and idle
objects are released front first, each detached, one per free token, while `size` exceeds
the new limit -/
theorem C07_max_size_set (s s' : State) (i n old : Nat) (hl : s.lock = none)
    (hc : s.sem.closed = false) (h : stepResize s i n false .lock old = some s') :
    s'.maxSize = n ∧ s'.debt = s.debt + (s.maxSize - n) := by
  have e := stepResize_lock_open hc h
  exact ⟨e.max, e.debt⟩

theorem C07_shrink_iteration (s s' : State) (i n old : Nat) (c : Bool) (o : Obj) (rest : List Obj)
    (hsz : s.size > s.maxSize) (hp : 0 < s.sem.permits) (hc : s.sem.closed = false)
    (hi : s.idle = o :: rest) (h : stepResize s i n c .shrink old = some s') :
    s'.idle = rest ∧ s'.size = s.size - 1 ∧ s'.sem.permits + 1 = s.sem.permits ∧
    s'.debt = s.debt - 1 ∧ s'.log = s.log ++ [.detach i o.id, .destroy i o.id] := by
  simp only [stepResize, hsz, if_true, Sem.tryAcquire_of_free hc hp, hi, Option.some.injEq] at h
  subst h
  exact ⟨rfl, rfl, Nat.sub_add_cancel hp, rfl, rfl⟩

/-- **C07 (grow is exact).** Growing by `k` hands exactly `k` tokens to the semaphore, the
longest-waiting callers first: `min k |queue|` waiters are woken at once, the rest becomes
free permits. -/
theorem C07_grow_exact (s s' : State) (i n old : Nat) (c : Bool)
    (h : stepResize s i n c .grow old = some s') :
    s'.sem = s.sem.addPermits (n - old) ∧
    s'.sem.tokens = s.sem.tokens + (n - old) ∧
    s'.sem.assigned = s.sem.assigned ++ s.sem.queue.take (min (n - old) s.sem.queue.length) ∧
    s'.sem.permits = s.sem.permits + ((n - old) - min (n - old) s.sem.queue.length) := by
  simp only [stepResize, Option.some.injEq] at h
  subst h
  exact ⟨rfl, Sem.addPermits_tokens _ _, rfl, rfl⟩

/-- **C07 (capacity at rest, partial).** When everything has finished and every object has
come back, the free capacity is `max_size` plus the uncollected `debt`; with `debt = 0`
the pool's capacity is exactly the last resize target. -/
theorem C07_capacity_at_rest_partial (cfg : Cfg) (acts : List Action)
    (hd : ∀ op ∈ (run (init cfg) acts).ops, op = Op.done) (ho : (run (init cfg) acts).out = []) :
    (run (init cfg) acts).sem.permits =
      (run (init cfg) acts).maxSize + (run (init cfg) acts).debt := by
  have := ((run_acct cfg acts).at_rest (run_link cfg acts) hd).1
  rwa [ho, List.length_nil, Nat.add_zero] at this

/-- **C07 (growing is exact, full strength on histories that never shrink).** In every history
in which no `resize` lowers `max_size` and the pool is not closed — any number of grows and
no-op resizes, interleaved with anything — the limit is effective for every admission (live
objects never exceed the current `max_size`), and once everything has finished and every
object has come back the free capacity is exactly the last resize target. -/
theorem C07_grow_only_exact (cfg : Cfg) (acts : List Action) (h : GrowOnly (init cfg) acts) :
    (run (init cfg) acts).liveN ≤ (run (init cfg) acts).maxSize ∧
    ((∀ op ∈ (run (init cfg) acts).ops, op = Op.done) → (run (init cfg) acts).out = [] →
      (run (init cfg) acts).sem.permits = (run (init cfg) acts).maxSize) := by
  have d := run_debt_zero (init cfg) acts rfl h
  refine ⟨C07_effective_when_collected_partial cfg acts d, fun hd ho => ?_⟩
  have := C07_capacity_at_rest_partial cfg acts hd ho
  rwa [d] at this

end DeadpoolVerif
