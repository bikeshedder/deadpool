/-
C13 — per-object metrics tell the truth.
-/
import DeadpoolVerif.Lemmas.MetLog
import DeadpoolVerif.Props.C08

namespace DeadpoolVerif

/-- **C13 (recycle_count, recycled).** In every reachable state, for every object of the
pool wherever it is — idle, in a caller's hands, being returned or taken, or in the middle of
being recycled by a get(): `recycle_count` equals the number of times the object has been
handed out again after its first use (`hand-outs - 1`), the last-recycled instant is absent
exactly as long as `recycle_count = 0`, and `created ≤ recycled ≤ now`.  An object that
was just created and not yet handed out has `recycle_count = 0` and no recycled instant. -/
theorem C13_metrics_truthful (cfg : Cfg) (acts : List Action) :
    (∀ o ∈ (run (init cfg) acts).idle ++ (run (init cfg) acts).out,
      o.rc + 1 = o.handouts ∧ (o.recycled = none ↔ o.rc = 0) ∧
      o.created ≤ (run (init cfg) acts).now ∧
      ∀ r, o.recycled = some r → o.created ≤ r ∧ r ≤ (run (init cfg) acts).now) ∧
    (∀ op ∈ (run (init cfg) acts).ops, op.objOK (run (init cfg) acts).now) := by
  have v := run_objinv cfg acts
  refine ⟨fun o ho => ?_, v.ops⟩
  obtain ⟨⟨h1, h2⟩, h3, _, h5⟩ := v.pooled o ho
  exact ⟨h1.symm, h2, h3, h5⟩

/-- **C13 (what callbacks and callers see).** Every metrics value that was ever shown to
user code — to a `pre_recycle` hook, `Manager::recycle`, a `post_recycle` hook, a retain
predicate, or returned with the object (`Object::metrics`) — satisfies `recycle_count =
hand-outs - 1` *for the hand-outs that had happened when it was shown*: hooks and the recycle
check see the values of the previous hand-out (the count is bumped only by the hand-out
itself), `post_create` hooks see a fresh object (`recycle_count = 0`, no recycled instant). -/
theorem C13_shown_metrics (cfg : Cfg) (acts : List Action) :
    ∀ e ∈ (run (init cfg) acts).log, e.metricsOK :=
  (run_objinv cfg acts).log

/-- the bump happens exactly at the hand-out that follows a complete successful recycle:
count + 1, recycled := now (never backwards: `recycled ≤ now` before), created unchanged -/
theorem C13_bump_at_handout (s : State) (i : Nat) (t : Timeouts) (k : Nat) (o : Obj) (susp : Bool)
    (hk : ¬ k + 1 < s.cfg.nRecycle) :
    stepGet s i t (.recycling k o susp) .ok =
      some (handOut s i { o with rc := o.rc + 1, recycled := some s.now }) := by
  simp [stepGet, hk]

/-- a rejected, failed or cancelled recycle never changes the metrics: the object goes down
the discard path as it was -/
theorem C13_no_bump_on_failure (s s' : State) (i : Nat) (t : Timeouts) (k : Nat) (o : Obj)
    (susp : Bool) (oc : Outcome) (hoc : oc ≠ .ok) (h : stepGet s i t (.recycling k o susp) oc = some s') :
    s'.out = s.out ∧ (s'.ops = s.ops.set i (.get t (.recycling k o true)) ∨
      ∃ c, s'.ops = s.ops.set i (.get t (.unreadyLock o c))) := by
  obtain ⟨-, x, es, idle, out, n, a, st, -⟩ := stepGet_spec h
  cases st with
  | recycleNext | recycleDone => exact absurd rfl hoc
  | recycleWait => exact ⟨a.out, .inl a.ops⟩
  | recycleFail => exact ⟨a.out, .inr ⟨_, a.ops⟩⟩

/-- the object put back by a return is the object the caller held, metrics untouched
(`retain` therefore sees what `Object::metrics()` last reported) -/
theorem C13_return_keeps_metrics (s s' : State) (i : Nat) (o : Obj) (hl : s.lockFree i = true)
    (hsz : s.size ≤ s.maxSize) (h : stepRet s i .lock o = some s') :
    ∃ o', s'.idle = s.idle ++ [o'] ∧ o'.id = o.id ∧ o'.rc = o.rc ∧ o'.created = o.created ∧
      o'.recycled = o.recycled :=
  ⟨_, C08_return_appends s s' i o hl hsz h, rfl, rfl, rfl, rfl⟩

/-! Non-vacuity: an object handed out three times has recycle_count 2 -/
example : ({ id := 0, created := 3, recycled := some 40, rc := 2, handouts := 3 } : Obj).used := by
  simp [Obj.used]

theorem Obj.timeOK.accessors {o : Obj} {now : Nat} (h : o.timeOK now) :
    o.age now + o.created = now ∧ o.lastUsed now ≤ o.age now ∧
      (o.recycled = none → o.lastUsed now = o.age now) ∧
      ∀ r, o.recycled = some r → o.lastUsed now + r = now := by
  obtain ⟨h1, -, h3⟩ := h
  unfold Obj.age Obj.lastUsed
  cases hr : o.recycled with
  | none => exact ⟨Nat.sub_add_cancel h1, Nat.le_refl _, fun _ => rfl, nofun⟩
  | some r =>
    obtain ⟨h4, h5⟩ := h3 r hr
    exact ⟨Nat.sub_add_cancel h1, Nat.sub_le_sub_left h4 now, nofun,
      fun _ e => Option.some.inj e ▸ Nat.sub_add_cancel h5⟩

/-- **C13 (the accessors tell the same story as the fields).** For every idle or handed-out
object of every reachable state, read at the current instant: `age()` is exactly the time
since `created` (no underflow: `created ≤ now`), `last_used()` is the time since `recycled`
and never exceeds `age()`, and before the first reuse the two coincide. -/
theorem C13_accessors (cfg : Cfg) (acts : List Action) :
    ∀ o ∈ (run (init cfg) acts).idle ++ (run (init cfg) acts).out,
      o.age (run (init cfg) acts).now + o.created = (run (init cfg) acts).now ∧
      o.lastUsed (run (init cfg) acts).now ≤ o.age (run (init cfg) acts).now ∧
      (o.recycled = none → o.lastUsed (run (init cfg) acts).now = o.age (run (init cfg) acts).now) ∧
      (∀ r, o.recycled = some r →
        o.lastUsed (run (init cfg) acts).now + r = (run (init cfg) acts).now) :=
  fun o ho => ((run_objinv cfg acts).pooled o ho).2.accessors

/-- **C13 (read off the event log).** Take any history and any object id, and list the
hand-out events of that object in the order they were logged.  The `k`-th of them (counting
from 0) reports `recycle_count = k` — the number of times the object has been handed out again
after its first use — and a last-recycled instant that is absent exactly for `k = 0`; all of
them report the same creation instant; and the last-recycled instants never move backwards
along the list.  (The ghost counter `handouts` of `C13_metrics_truthful` is thereby shown to
be the real number of hand-out events.) -/
theorem C13_handouts_in_log (cfg : Cfg) (acts : List Action) (x : Nat) :
    (∀ k p, (hoOf x (run (init cfg) acts).log)[k]? = some p →
      p.id = x ∧ p.rc = k ∧ (p.recycled = none ↔ k = 0)) ∧
    (∀ p ∈ hoOf x (run (init cfg) acts).log, ∀ q ∈ hoOf x (run (init cfg) acts).log,
      p.created = q.created) ∧
    (hoOf x (run (init cfg) acts).log).Pairwise (fun p q => optLE p.recycled q.recycled) := by
  have m := run_metlog cfg acts
  have v := run_objinv cfg acts
  refine ⟨?_, m.created x, m.mono x⟩
  intro k p hk
  obtain ⟨hid, i, hev⟩ := mem_hoOf (List.mem_of_getElem? hk)
  obtain ⟨h1, h2⟩ : p.used := v.log _ hev
  have hh := m.idx x k p hk
  have hrc : p.rc = k := by omega
  exact ⟨hid, hrc, by rw [h2, hrc]⟩

/-- **C13 (every live object agrees with the log).** In every reachable state, an object that
is idle or in a caller's hands has `recycle_count + 1` equal to the number of hand-out events
of its id in the log, the creation instant every one of those events reported, and a
last-recycled instant not earlier than any of them reported. -/
theorem C13_live_agrees_with_log (cfg : Cfg) (acts : List Action) :
    ∀ o ∈ (run (init cfg) acts).idle ++ (run (init cfg) acts).out,
      o.rc + 1 = (hoOf o.id (run (init cfg) acts).log).length ∧
      ∀ p ∈ hoOf o.id (run (init cfg) acts).log,
        p.created = o.created ∧ optLE p.recycled o.recycled := by
  intro o ho
  obtain ⟨a1, a2⟩ := (run_metlog cfg acts).live o (List.mem_append_left _ ho)
  exact ⟨((run_objinv cfg acts).pooled o ho).1.1.symm.trans a1, a2⟩

/-- not vacuous: an object handed out, returned and handed out again has two hand-out events,
the second with `recycle_count = 1` -/
example :
    let acts : List Action :=
      [ .start (.get {}), .step 0 .run, .step 0 .run, .step 0 .run, .step 0 .ok, .step 0 .run,
        .start (.ret 0), .step 1 .run, .step 1 .run, .step 1 .run,
        .start (.get {}), .step 2 .run, .step 2 .run, .step 2 .run, .step 2 .ok ]
    ((hoOf 0 (run (init { maxSize := 1 }) acts).log).map Obj.rc) = [0, 1] := by
  decide

end DeadpoolVerif
