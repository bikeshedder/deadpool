/-
C17 — the Redis pool hands out only clean, synchronised connections.

`ConnInv` is the invariant of one connection's life from which the whole-life theorems follow.
-/
import DeadpoolVerif.Model.RedisRecycle
import DeadpoolVerif.Props.C15

namespace DeadpoolVerif
namespace RR

/-- **C17 (the check).** `recycle` accepts the connection exactly when the server echoed the
very number it sent; an error reply, a failing `UNWATCH`, a disconnect, silence, a stale or
otherwise different value all reject it. -/
theorem C17_recycle_ok_iff (m : Mgr) (c : Conn) (r : Reply) :
    (recycle m c r).2.2 = true ↔ r = .echo (some m.pingNumber) := by
  cases r with
  | echo v => cases v <;> simp [recycle]
  | _ => simp [recycle]

/-- **C17 (what the server has seen).** Whatever the answer, the server has received an
`UNWATCH` and then the `PING` on that connection, after everything the previous user sent, and
the connection's watch state is cleared — leftover `WATCH`es of the previous user included. -/
theorem C17_unwatch_then_ping (m : Mgr) (c : Conn) (r : Reply) :
    (recycle m c r).2.1.log = c.log ++ [.unwatch, .ping m.pingNumber] ∧
    (recycle m c r).2.1.watched = false ∧
    (recycle m c.watch r).2.1.watched = false ∧
    (recycle m c r).1.pingNumber = m.pingNumber + 1 := by
  simp [recycle]

theorem pingsSent_eq (m : Mgr) (rs : List Reply) :
    pingsSent m rs = List.range' m.pingNumber rs.length := by
  induction rs generalizing m with
  | nil => rfl
  | cons r rs ih => simp [pingsSent, ih, List.range'_succ]

/-- **C17 (fresh values).** Over any sequence of recycles on one pool — whichever connections
they are on and however the server answers — the ping values are pairwise distinct: each one
has not been used before on that pool. -/
theorem C17_ping_fresh (m : Mgr) (rs : List Reply) :
    (pingsSent m rs).Nodup ∧ ∀ n ∈ pingsSent m rs, m.pingNumber ≤ n := by
  rw [pingsSent_eq]
  exact ⟨List.nodup_range', fun n hn => (List.mem_range'_1.mp hn).1⟩

/-- consequently a stale echo — the value of any earlier ping on the pool — is never accepted -/
theorem C17_stale_rejected (m : Mgr) (c : Conn) (v : Nat) (h : v < m.pingNumber) :
    (recycle m c (.echo (some v))).2.2 = false :=
  beq_false_of_ne (Nat.ne_of_lt h)

/-- **C17 (reuse only after the check).** In the pool, a reused connection reaches a caller only
by the step in which the last callback of the recycle sequence answered `ok`
(`C04_handout_requires_all_ok`); `Manager::recycle` is one of those callbacks, so its answer was
`ok`, i.e. the server echoed the fresh ping after the `UNWATCH`.  A rejected connection is
discarded and the get goes on to the next idle connection or creates one
(`C04_recycle_failure_discards`). -/
theorem C17_reuse_requires_recycle_ok (s s' : State) (i : Nat) (t : Timeouts) (k : Nat) (o : Obj)
    (susp : Bool) (oc : Outcome) (h : stepGet s i t (.recycling k o susp) oc = some s')
    (hout : s'.out ≠ s.out) : oc = .ok ∧ s.cfg.nRecycle ≤ k + 1 := by
  rcases C04_handout_requires_all_ok s s' i t _ oc h hout with
    ⟨k', o', susp', hpc, hoc, hk, _⟩ | ⟨k', o', susp', hpc, _⟩ | ⟨o', hpc, _⟩
  · cases hpc; exact ⟨hoc, hk⟩
  · cases hpc
  · cases hpc

/-- **C17 (never reissued, all histories).** Let `unsync id n` say that connection `id`, at the
recycle after its `n`-th hand-out, does not get the echo of the fresh ping (error, stale or
other value, silence, disconnect).  In every history of the pool in which `Manager::recycle`
is answered `Ok` only on the right echo — `C17_recycle_ok_iff` — no hand-out is the `(n+1)`-th
hand-out of such a connection. -/
theorem C17_unsynchronised_never_reissued (cfg : Cfg) (unsync : SP.Spoiled) (acts : List Action)
    (h : SP.Honest unsync (init cfg) acts) (i : Nat) (o : Obj)
    (ho : Ev.handout i o ∈ (run (init cfg) acts).log) (hn : 1 < o.handouts) :
    unsync o.id (o.handouts - 1) = false :=
  SP.C15_spoiled_never_reissued cfg unsync acts h i o ho hn

/-! ### one connection over its whole life -/

/-- every `PING` the server received is directly preceded by an `UNWATCH` -/
def Guarded (l : List Cmd) : Prop :=
  ∀ i n, l[i]? = some (.ping n) → 0 < i ∧ l[i - 1]? = some .unwatch

/-- one more command: a `PING` must follow an `UNWATCH` -/
theorem Guarded.concat {l : List Cmd} {c : Cmd} (h : Guarded l)
    (hc : ∀ n, c = .ping n → l.getLast? = some .unwatch) : Guarded (l ++ [c]) := by
  intro i n hi
  have h' : 0 < i ∧ l[i - 1]? = some .unwatch := by
    refine forall_append_single (P := fun j u => u = Cmd.ping n → 0 < j ∧ l[j - 1]? = some .unwatch)
      (fun j u hj e => h j n (e ▸ hj)) (fun e => ?_) (fun _ _ _ hp => hp) i _ hi rfl
    have hl := List.getLast?_eq_getElem? ▸ hc n e
    exact ⟨by have := lt_of_getElem? hl; omega, hl⟩
  exact ⟨h'.1, by rw [List.getElem?_append_left (lt_of_getElem? h'.2)]; exact h'.2⟩

/-- invariant of one connection's life: the model's watch flag is what the server derives from
the commands it received; every ping value in the server's log is below the manager's counter
(so the next one is new on this connection as well); the ping values on the connection increase
strictly; no `PING` was sent without an `UNWATCH` right before it -/
structure ConnInv (mc : Mgr × Conn) : Prop where
  flag : mc.2.watched = watchedOf mc.2.log
  below : ∀ n ∈ pingsOf mc.2.log, n < mc.1.pingNumber
  incr : (pingsOf mc.2.log).Pairwise (· < ·)
  guarded : Guarded mc.2.log

theorem watchedOf_append (l l' : List Cmd) : watchedOf (l ++ l') = l'.foldl watchStep (watchedOf l) :=
  List.foldl_append ..

theorem pingsOf_append (l l' : List Cmd) : pingsOf (l ++ l') = pingsOf l ++ pingsOf l' :=
  List.filterMap_append ..

/-- user commands send no `PING`; they leave the manager alone -/
theorem ConnInv.user {mc : Mgr × Conn} (h : ConnInv mc) {c : Cmd} {w : Bool} (hc : pingsOf [c] = [])
    (hw : w = watchStep mc.2.watched c) : ConnInv (mc.1, { watched := w, log := mc.2.log ++ [c] }) := by
  refine ⟨?_, ?_, ?_, h.guarded.concat fun n e => by subst e; cases hc⟩ <;>
    simp only [pingsOf_append, hc, List.append_nil]
  · rw [hw, h.flag, watchedOf_append]; rfl
  · exact h.below
  · exact h.incr

theorem ConnInv.step {mc : Mgr × Conn} (h : ConnInv mc) (op : ConnOp) : ConnInv (connStep mc op) := by
  cases op with
  | watch | other => exact h.user rfl rfl
  | recycle r =>
    -- the new ping is the counter: above all earlier ones, below the new counter
    have hp : pingsOf (connStep mc (.recycle r)).2.log = pingsOf mc.2.log ++ [mc.1.pingNumber] :=
      pingsOf_append ..
    refine ⟨(watchedOf_append mc.2.log [.unwatch, .ping mc.1.pingNumber]).symm, ?_, ?_, ?_⟩
    · rw [hp]
      exact forall_mem_append_single (fun n hn => Nat.lt_succ_of_lt (h.below n hn))
        (Nat.lt_succ_self _)
    · rw [hp]
      exact pairwise_append_single h.incr h.below
    · show Guarded (mc.2.log ++ [.unwatch, .ping mc.1.pingNumber])
      rw [List.append_cons]
      exact (h.guarded.concat (c := .unwatch) nofun).concat fun _ _ => List.getLast?_concat

theorem ConnInv.init (m : Mgr) : ConnInv (m, {}) := ⟨rfl, nofun, .nil, fun i n hi => by simp at hi⟩

theorem ConnInv.run (m : Mgr) (ops : List ConnOp) : ConnInv (ops.foldl connStep (m, {})) :=
  List.foldlRecOn ops connStep (ConnInv.init m) fun _ h op _ => h.step op

/-- **C17 (UNWATCH before every PING, whole life of a connection).** In the server's log of any
connection, after any sequence of user commands and recycles, every `PING` is directly preceded
by an `UNWATCH`: no recycle ever probes a connection without first clearing its watches. -/
theorem C17_every_ping_after_unwatch (m : Mgr) (ops : List ConnOp) : Guarded (ops.foldl connStep (m, {})).2.log :=
  (ConnInv.run m ops).guarded

/-- **C17 (clean at every hand-out, whole life of a connection).** Take any connection, created
when the manager's counter was anything, and ANY sequence of user commands (`WATCH`, anything
else) and recycles with arbitrary server answers.  If the sequence ends with a recycle - the
only step after which the pool may hand the connection out again - then the watch state the
server itself derives from the commands it received is clear, however many `WATCH`es earlier
users left behind; the ping values the server saw on the connection increase strictly (so no
earlier echo that is still in flight can equal the value now awaited), and the model's flag
agrees with the server's view throughout. -/
theorem C17_clean_at_handout (m : Mgr) (ops : List ConnOp) (r : Reply) :
    watchedOf ((ops ++ [ConnOp.recycle r]).foldl connStep (m, {})).2.log = false ∧
    ((ops ++ [ConnOp.recycle r]).foldl connStep (m, {})).2.watched = false ∧
    (pingsOf ((ops ++ [ConnOp.recycle r]).foldl connStep (m, {})).2.log).Pairwise (· < ·) ∧
    ∀ n ∈ pingsOf ((ops ++ [ConnOp.recycle r]).foldl connStep (m, {})).2.log,
      n < ((ops ++ [ConnOp.recycle r]).foldl connStep (m, {})).1.pingNumber := by
  have h := ConnInv.run m (ops ++ [ConnOp.recycle r])
  have hw : ((ops ++ [ConnOp.recycle r]).foldl connStep (m, {})).2.watched = false := by
    simp [connStep, recycle]
  exact ⟨by rw [← h.flag]; exact hw, hw, h.incr, h.below⟩

/-- an earlier ping value of the connection's whole life is never accepted by a later recycle -/
theorem C17_old_echo_rejected (m : Mgr) (ops : List ConnOp) (v : Nat)
    (hv : v ∈ pingsOf (ops.foldl connStep (m, {})).2.log) :
    let mc := ops.foldl connStep (m, {})
    (recycle mc.1 mc.2 (.echo (some v))).2.2 = false :=
  C17_stale_rejected _ _ _ ((ConnInv.run m ops).below v hv)

/-! Non-vacuity -/

example : watchedOf ([ConnOp.watch, .other, .recycle .drop, .watch].foldl connStep (({ pingNumber := 3 } : Mgr), {})).2.log = true ∧
    watchedOf ([ConnOp.watch, .other, .recycle .drop, .watch, .recycle .silent].foldl connStep (({ pingNumber := 3 } : Mgr), {})).2.log = false ∧
    pingsOf ([ConnOp.watch, .recycle .drop, .watch, .recycle .silent].foldl connStep (({ pingNumber := 3 } : Mgr), {})).2.log = [3, 4] := by
  decide

example : (recycle { pingNumber := 7 } { watched := true } (.echo (some 7))).2.2 = true ∧
    (recycle { pingNumber := 7 } { watched := true } (.echo (some 6))).2.2 = false ∧
    (recycle { pingNumber := 7 } { watched := true } .drop).2.1.watched = false := by decide

end RR
end DeadpoolVerif
