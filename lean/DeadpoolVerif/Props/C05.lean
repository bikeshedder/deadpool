/-
C05 — the unmanaged pool conserves its objects and respects max_size.
-/
import DeadpoolVerif.Lemmas.UConserve
import DeadpoolVerif.Lemmas.UAcct

namespace DeadpoolVerif
namespace U

/-- **C05 (conservation).** For every pool built by `new` / `from_config` (`initial = 0`)
or from an iterator (`initial` objects), after any history of get / try_get / timeout_get /
add / try_add / remove* / take / return / close by any number of tasks under any thread-level
interleaving, with cancellations: every object id that was ever added is in exactly one
place — in the queue, in exactly one caller's hands, handed back to a caller for good (remove,
take, refused or cancelled add), in the hands of exactly one operation, or dropped by the
pool — never in two places, never nowhere; an id that was not added yet is nowhere; and as
long as the pool is open nothing has been dropped. -/
theorem C05_conservation (cfg : Cfg) (hc : cfg.initial ≤ cfg.maxSize) (acts : List Action) (id : Nat) :
    natCnt id (run (init cfg) acts).queue + natCnt id (run (init cfg) acts).hands +
      natCnt id (run (init cfg) acts).returned + natCnt id (run (init cfg) acts).dropped +
      sumW (Op.heldCnt id) (run (init cfg) acts).ops = ltInd id (run (init cfg) acts).nextId ∧
    ltInd id (run (init cfg) acts).nextId ≤ 1 ∧
    ((run (init cfg) acts).sem.closed = false → (run (init cfg) acts).dropped = []) :=
  ⟨((run_conserve cfg acts).place id).symm, ltInd_le_one _ _,
   fun ho => List.eq_nil_of_length_eq_zero ((run_acct cfg hc acts).open_ ho).2.1⟩

/-- **C05 (never more than max_size objects).** The objects the pool holds or has lent out —
queued, in callers' hands, or in flight inside an operation — never exceed `size`, and
`size` never exceeds `max_size`. -/
theorem C05_le_max (cfg : Cfg) (hc : cfg.initial ≤ cfg.maxSize) (acts : List Action) :
    (run (init cfg) acts).queue.length + (run (init cfg) acts).hands.length +
      sumW Op.inFlightW (run (init cfg) acts).ops = (run (init cfg) acts).size ∧
    (run (init cfg) acts).size ≤ cfg.maxSize := by
  have a := run_acct cfg hc acts
  have h : _ = cfg.maxSize := run_cfg (init cfg) acts ▸ a.slots
  exact ⟨a.siz.symm, by omega⟩

/-- **C05 (try_add reports Timeout exactly while the pool is full).** The acquisition step
of `try_add`: no free slot (and not closed) → `Timeout` with the object handed back;
closed → `Closed` with the object handed back; otherwise it takes a slot and goes on. -/
theorem C05_try_add_decides (s s' : State) (i id : Nat)
    (h : stepAdd s i id true .start .run = some s') :
    (s.sizeSem.closed = true → s'.returned = s.returned ++ [id] ∧ s'.queue = s.queue ∧
      s'.log = s.log ++ [.result i (.closed (some id))]) ∧
    (s.sizeSem.closed = false → s.sizeSem.permits = 0 → s'.returned = s.returned ++ [id] ∧
      s'.queue = s.queue ∧ s'.log = s.log ++ [.result i (.timeout (some id))]) ∧
    (s.sizeSem.closed = false → 0 < s.sizeSem.permits →
      s'.ops = s.ops.set i (.add id true .size) ∧ s'.sizeSem.permits + 1 = s.sizeSem.permits) := by
  simp only [stepAdd, if_true] at h
  refine ⟨fun hc => ?_, fun hc hp => ?_, fun hc hp => ?_⟩
  · rw [Sem.tryAcquire_of_closed hc] at h
    cases h
    exact ⟨rfl, rfl, rfl⟩
  · rw [Sem.tryAcquire_of_empty hc hp] at h
    cases h
    exact ⟨rfl, rfl, rfl⟩
  · rw [Sem.tryAcquire_of_free hc hp] at h
    cases h
    exact ⟨rfl, Nat.sub_add_cancel hp⟩

/-- at rest the free slots are exactly `max_size - size` (minus what a closed pool dropped):
"full" means `size = max_size` -/
theorem C05_free_slots_at_rest (cfg : Cfg) (hc : cfg.initial ≤ cfg.maxSize) (acts : List Action)
    (hd : ∀ op ∈ (run (init cfg) acts).ops, Op.addW op = 0 ∧ Op.takeW op = 0) :
    (run (init cfg) acts).sizeSem.tokens + (run (init cfg) acts).size +
      (run (init cfg) acts).dropped.length = (run (init cfg) acts).cfg.maxSize := by
  have a := run_acct cfg hc acts
  have h := a.slots
  have z1 : sumW Op.addW (run (init cfg) acts).ops = 0 := sumW_eq_zero_iff.mpr (fun x hx => (hd x hx).1)
  have z2 : sumW Op.takeW (run (init cfg) acts).ops = 0 := sumW_eq_zero_iff.mpr (fun x hx => (hd x hx).2)
  omega

/-- a slot freed by take / remove goes to the adder that has waited longest, at once -/
theorem C05_take_wakes_adder (s s' : State) (i id j : Nat) (v : Bool) (rest : List Nat)
    (hq : s.sizeSem.queue = j :: rest) (h : stepTake s i id .addPermits v = some s') :
    j ∈ s'.sizeSem.assigned ∧ s'.sizeSem.queue = rest := by
  simp only [stepTake, Option.some.injEq] at h
  subst h
  exact Sem.addPermits_one_cons hq

/-- No operation is in progress except callers blocked in get() (registered in the
semaphore's queue, not woken). -/
structure AtRest (s : State) : Prop where
  ops : ∀ op ∈ s.ops, op = Op.done ∨ (∃ w r, op = .get w false r .queued)
  noWoken : s.sem.assigned = []
  registered : 0 < sumW Op.waitW s.ops → s.sem.queue ≠ []
  open_ : s.sem.closed = false

theorem rest_sums (ops : List Op) (h : ∀ op ∈ ops, op = Op.done ∨ (∃ w r, op = .get w false r .queued)) :
    sumW Op.popW ops = 0 ∧ sumW Op.pendW ops = 0 ∧ sumW Op.inFlightW ops = 0 ∧
    sumW Op.pushW ops = 0 ∧ sumW Op.tryW ops = 0 := by
  refine ⟨sumW_eq_zero_iff.mpr ?_, sumW_eq_zero_iff.mpr ?_, sumW_eq_zero_iff.mpr ?_,
    sumW_eq_zero_iff.mpr ?_, sumW_eq_zero_iff.mpr ?_⟩ <;>
    (intro op hop; rcases h op hop with rfl | ⟨w, r, rfl⟩ <;> rfl)

/-- `status()` reports `available` when it is positive and `-available` callers waiting when it is
negative -/
theorem status_eq (s : State) :
    status s = (s.cfg.maxSize, s.size, s.available.toNat, (-s.available).toNat) := by
  simp only [status, Prod.mk.injEq, true_and]
  constructor <;> split <;> omega

/-- **C05 (status at rest).** While the pool is open and at rest, `status()` reports the
true figures: `size` = objects queued + objects in callers' hands, `available` = objects
queued, `waiting` = callers blocked in get(). -/
theorem C05_status_at_rest (cfg : Cfg) (hc : cfg.initial ≤ cfg.maxSize) (acts : List Action)
    (r : AtRest (run (init cfg) acts)) :
    status (run (init cfg) acts) =
      ((run (init cfg) acts).cfg.maxSize,
       (run (init cfg) acts).queue.length + (run (init cfg) acts).hands.length,
       (run (init cfg) acts).queue.length,
       sumW Op.waitW (run (init cfg) acts).ops) := by
  have a := run_acct cfg hc acts
  have w := (run_semswf cfg acts).sem
  generalize run (init cfg) acts = s at *
  obtain ⟨p0, q0, f0, u0, t0⟩ := rest_sums s.ops r.ops
  have hs := a.siz
  have ha := a.avail
  have ho := (a.open_ r.open_).1
  rw [p0, q0, Sem.tokens, r.noWoken] at ho
  rw [f0] at hs
  rw [u0, t0] at ha
  -- callers are blocked ⇒ the semaphore has a waiter ⇒ no free permit ⇒ (`ho`) the queue is empty
  have key : 0 < sumW Op.waitW s.ops → s.sem.permits = 0 := fun h0 =>
    (w.of_queue_ne_nil (r.registered h0)).1
  -- so of queue length and blocked callers, whose difference `available` is (`ha`), one is zero
  simp only [status_eq, Prod.mk.injEq, true_and, List.length_nil] at ho ⊢
  omega

/-! Non-vacuity: one object added and lent out, two callers blocked -/

def C05_demo : List Action :=
  [ .start .tryAdd, .step 0 .run, .step 0 .run, .step 0 .run, .step 0 .run, .step 0 .run, .step 0 .run,
    .start .tryGet, .step 1 .run, .step 1 .run, .step 1 .run,
    .start (.get .none), .step 2 .run, .start (.get .none), .step 3 .run ]

example : (run? (init { maxSize := 2 }) C05_demo).isSome = true := by decide
example : status (run (init { maxSize := 2 }) C05_demo) = (2, 1, 0, 2) := by decide

end U
end DeadpoolVerif
