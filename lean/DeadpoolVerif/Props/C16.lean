/-
C16 — Postgres pool: health checks, statement cache and cache registry are exact.

Property theorems only.  (`C16_recycling_queries` — which query each recycling method issues —
is in `Props/C18.lean` next to the config model it belongs to; `Props.C04` and `Props.C18` are
imported for the check of this property, which audits theorems of theirs.)
-/
import DeadpoolVerif.Lemmas.PgPool
import DeadpoolVerif.Props.C04
import DeadpoolVerif.Props.C15
import DeadpoolVerif.Props.C18

namespace DeadpoolVerif
namespace PgP

/-- **C16 (health check).** A closed client is never accepted and nothing is sent for it; an
open one is sent exactly the method's query (nothing for `Fast`) and is accepted exactly when
there is no query or the query succeeded — a server-side error or a disconnect rejects it. -/
theorem C16_recycle_decides (closed : Bool) (m : Pg.RecyclingMethod) (r : QueryReply) :
    (closed = true → recycle closed m r = (none, false)) ∧
    (closed = false → (recycle closed m r).1 = m.query) ∧
    ((recycle closed m r).2 = true ↔ closed = false ∧ (m.query = none ∨ r = .ok)) := by
  cases closed with
  | true => simp [recycle]
  | false => cases hq : m.query <;> simp [recycle, hq]

/-- in the pool, only an accepted client is handed out again (`C04_handout_requires_all_ok`);
a rejected one is discarded and replaced (`C04_recycle_failure_discards`) -/
theorem C16_closed_never_reissued (closed : Bool) (m : Pg.RecyclingMethod) (r : QueryReply)
    (h : closed = true) : (recycle closed m r).2 = false :=
  congrArg Prod.snd ((C16_recycle_decides closed m r).1 h)

/-- **C16 (never reissued, all histories).** Let `unfit id n` say that client `id` was unfit —
its connection closed, or its check query failing — by the end of its `n`-th hand-out.  In every
history of the pool (any interleaving, any outcomes) in which `Manager::recycle` is never
answered `Ok` for an unfit client — which is what `C16_recycle_decides` says of this manager —
no hand-out is the `(n+1)`-th hand-out of such a client. -/
theorem C16_unfit_never_reissued (cfg : Cfg) (unfit : SP.Spoiled) (acts : List Action)
    (h : SP.Honest unfit (init cfg) acts) (i : Nat) (o : Obj)
    (ho : Ev.handout i o ∈ (run (init cfg) acts).log) (hn : 1 < o.handouts) :
    unfit o.id (o.handouts - 1) = false :=
  SP.C15_spoiled_never_reissued cfg unfit acts h i o ho hn

/-- **C16 (size = number of cached keys).** After any sequence of inserts (the second half of a
`prepare_typed`, whatever happened between its lookup and its insert), removes and clears — i.e.
under every interleaving of concurrent users of one client — `size()` is the number of entries,
no key is cached twice, and every cached statement was prepared on this connection for exactly
its key. -/
theorem C16_cache_exact (conn : Nat) (ops : List COp) :
    WF (ops.foldl Cache.apply { conn := conn }) :=
  (WF.new conn).run ops

/-- **C16 (a hit costs nothing).** If the key is cached, `prepare_typed` returns the cached
statement, makes no round trip to the server and leaves the cache as it is. -/
theorem C16_hit_no_roundtrip (c : Cache) (next : Nat) (k : Key) (st : Stmt) (h : c.get k = some st) :
    c.prepareTyped next k = (c, st, 0) := by
  simp [Cache.prepareTyped, h]

/-- **C16 (a miss prepares once and caches).** If the key is not cached, exactly one statement
is prepared on the server, for this key on this connection; it is returned and cached; `size()`
grows by one; every other key keeps what it had. -/
theorem C16_miss_prepares (c : Cache) (next : Nat) (k : Key) (h : c.get k = none) :
    (c.prepareTyped next k).2.1 = { conn := c.conn, key := k, serial := next } ∧
    (c.prepareTyped next k).2.2 = 1 ∧
    (c.prepareTyped next k).1.get k = some { conn := c.conn, key := k, serial := next } ∧
    (c.prepareTyped next k).1.size = c.size + 1 ∧
    (∀ k', k' ≠ k → (c.prepareTyped next k).1.get k' = c.get k') := by
  have hp : c.prepareTyped next k = (c.insert k ⟨c.conn, k, next⟩, ⟨c.conn, k, next⟩, 1) := by
    simp [Cache.prepareTyped, h]
  rw [hp]
  exact ⟨rfl, rfl, by rw [Cache.get_insert, if_pos rfl], by simp [Cache.insert, h],
    fun k' hne => by rw [Cache.get_insert, if_neg hne]⟩

/-- **C16 (the right statement).** In a well-formed cache whatever `prepare_typed` returns was
prepared on this very connection for exactly this query text and these parameter types. -/
theorem C16_returned_matches_key (c : Cache) (hwf : WF c) (next : Nat) (k : Key) :
    (c.prepareTyped next k).2.1.key = k ∧ (c.prepareTyped next k).2.1.conn = c.conn := by
  unfold Cache.prepareTyped
  cases h : c.get k with
  | none => exact ⟨rfl, rfl⟩
  | some st => exact hwf.own _ (lookup_mem k c.map st h)

/-- keys that differ only in their parameter types are different keys: caching one does not
answer for the other -/
theorem C16_types_distinguish (c : Cache) (q : String) (t₁ t₂ : List Nat) (st : Stmt) (h : t₁ ≠ t₂) :
    (c.insert ⟨q, t₁⟩ st).get ⟨q, t₂⟩ = c.get ⟨q, t₂⟩ := by
  rw [Cache.get_insert, if_neg fun e => h (Key.mk.inj e).2.symm]

/-- `remove` and `clear` -/
theorem C16_remove_clear (c : Cache) (hwf : WF c) (k : Key) :
    (c.remove k).get k = none ∧ (∀ k', k' ≠ k → (c.remove k).get k' = c.get k') ∧
    ((c.get k).isSome → (c.remove k).size + 1 = c.size) ∧ ((c.get k) = none → c.remove k = c) ∧
    c.clear.size = 0 ∧ ∀ k', c.clear.get k' = none := by
  have hr := hwf.get_remove k
  refine ⟨by simp [hr], fun k' hne => by simp [hr, hne], fun h => ?_, fun h => by simp [Cache.remove, h],
    rfl, fun _ => rfl⟩
  have := erase_length k c.map h
  have hs := hwf.size
  simp only [Cache.remove, h, if_true]
  omega

/-- **C16 (the registry is exact).** In every reachable state of the pool the registered caches
are exactly those of the clients the pool owns — idle, checked out, or in the hands of an
operation — each once; a client that was taken, discarded after a failed check or hook,
removed by `retain`, or dropped by `resize` / `close` is not registered, so `clear()` and
`remove()` of the registry reach all of the pool's clients and no others. -/
theorem C16_registry_exact (cfg : Cfg) (acts : List Action) (id : Nat) :
    registered (run (init cfg) acts) id = true ↔
      idCnt id (run (init cfg) acts).idle + idCnt id (run (init cfg) acts).out +
        sumW (Op.heldCnt id) (run (init cfg) acts).ops = 1 := by
  have r := reach_run cfg acts
  generalize run (init cfg) acts = s at r
  have p := r.cons.place id
  have d := r.cons.detach id
  have b := ltInd_le_one id s.nextId
  rw [registered_iff, ← ltInd_pos]
  omega

/-! Non-vacuity -/
example :
    let c0 : Cache := { conn := 3 }
    let (c1, s1, n1) := c0.prepareTyped 0 ⟨"SELECT $1", [23]⟩
    let (c2, s2, n2) := c1.prepareTyped 1 ⟨"SELECT $1", [25]⟩
    let (c3, s3, n3) := c2.prepareTyped 2 ⟨"SELECT $1", [23]⟩
    n1 = 1 ∧ n2 = 1 ∧ n3 = 0 ∧ s3 = s1 ∧ s2 ≠ s1 ∧ c3.size = 2 ∧ (c3.remove ⟨"SELECT $1", [23]⟩).size = 1 := by
  decide

end PgP
end DeadpoolVerif
