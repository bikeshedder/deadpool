/-
C06 — close() is prompt, final and leaves nothing behind.

The whole property is proved of the current code.  Two clauses did not hold of the pinned
code in rare interleavings (genuine defects, repaired in /repo, see known_findings.txt /
DESIGN.md §11.2): (1) "a closed pool keeps no idle objects": an object whose return
overlapped close() could stay in the queue; (2) "status() reports max_size 0": a resize()
that passed its closed-check before close() ran could set max_size afterwards.  The
schedules that exhibited them are kept as `C06_regression_idle` / `C06_regression_max`.
-/
import DeadpoolVerif.Lemmas.NoSlot
import DeadpoolVerif.Lemmas.Link

namespace DeadpoolVerif

/-- **C06 (closed forever).** Once the semaphore is closed it stays closed along every
continuation: `is_closed()` stays true. -/
theorem C06_closed_forever (cfg : Cfg) (acts more : List Action)
    (hc : (run (init cfg) acts).sem.closed = true) :
    (run (init cfg) (acts ++ more)).sem.closed = true := by
  rw [run_append]
  exact run_induction (P := fun s => s.sem.closed = true) more hc fun _ _ _ h hs =>
    step_closed_mono hs h

/-- **C06 (every get fails with Closed).** On a closed pool the acquisition step of a get —
blocking, with a wait timeout, or non-blocking; fresh or already waiting; on re-poll or when
its deadline fires — ends in `Closed` (or in `NoRuntimeSpecified` for a finite wait timeout
without runtime, which is decided before the semaphore is touched) and never obtains a
slot, hence never yields an object. -/
theorem C06_get_after_close_fails (s s' : State) (i : Nat) (t : Timeouts) (pc : GPc) (oc : Outcome)
    (hc : s.sem.closed = true) (hpc : pc = .acquire ∨ pc = .queued)
    (hoc : oc = .run ∨ oc = .deadline) (h : stepGet s i t pc oc = some s') :
    s'.ops = s.ops.set i (.get t (.dropUsers .closed)) ∨
    s'.ops = s.ops.set i (.get t (.dropUsers .noRuntime)) := by
  -- on a closed semaphore `try_acquire` and every poll answer `closed`
  rcases hpc with rfl | rfl <;> rcases hoc with rfl | rfl <;>
    simp only [stepGet, Sem.tryAcquire_of_closed hc, Sem.pollAcquire_of_closed _ hc] at h
  repeat' split at h
  all_goals cases h
  all_goals first | exact .inl rfl | exact .inr rfl

/-- **C06 (never yields an object, along every continuation).** Take any history after
which the pool is closed and any operation `i` that at that point is not a get() owning a
capacity token — a get() still waiting for a slot or not yet at the semaphore, any other
kind of operation, or an operation that has not even started (every later get()).  Then in
*every* continuation, however long and however scheduled, operation `i` is never handed an
object: no `handout i o` event is ever added to the log. -/
theorem C06_no_object_after_close (cfg : Cfg) (acts more : List Action) (i : Nat)
    (hc : (run (init cfg) acts).sem.closed = true)
    (hi : ∀ op, (run (init cfg) acts).ops[i]? = some op → op.noSlot = true) (o : Obj)
    (h : Ev.handout i o ∈ (run (init cfg) (acts ++ more)).log) :
    Ev.handout i o ∈ (run (init cfg) acts).log := by
  rw [run_append] at h
  exact (run_induction
    (P := fun s => NoSlotAt i s ∧
      ∀ o, Ev.handout i o ∈ s.log → Ev.handout i o ∈ (run (init cfg) acts).log)
    more ⟨⟨hc, hi⟩, fun _ ho => ho⟩ fun _ _ _ ⟨k, hl⟩ hs =>
      ⟨(k.step hs).1, fun o ho => hl o ((k.step hs).2 o ho)⟩).2 o h

/-- the premises of `C06_no_object_after_close` are met by a caller that was waiting for a
slot when close() ran, and by one that arrives later; both end with `Closed` -/
def C06_trace_waiter : List Action :=
  [ .start (.get {}), .step 0 .run, .step 0 .run, .step 0 .run, .step 0 .ok, .step 0 .run,
    .start (.get {}), .step 1 .run, .step 1 .run,
    .start .close, .step 2 .run, .step 2 .run ]

example :
    let s := run (init { maxSize := 1 }) C06_trace_waiter
    (run? (init { maxSize := 1 }) C06_trace_waiter).isSome = true ∧ s.sem.closed = true ∧
    s.ops[1]? = some (.get {} .queued) ∧ (Op.get {} GPc.queued).noSlot = true ∧ s.ops[3]? = none ∧
    Ev.result 1 .closed ∈ (run s [.step 1 .run, .step 1 .run]).log ∧
    Ev.result 3 .closed ∈
      (run s [.start (.get {}), .step 3 .run, .step 3 .run, .step 3 .run]).log := by
  decide

/-- **C06 (close is one step).** close() runs as one critical section: it closes the
semaphore — which wakes every caller waiting for a slot: the queue is empty afterwards and
each of them completes with `Closed` at its next poll (`C02_woken_completes`) —, sets
`max_size` to 0 and releases and detaches every idle object, front to back. -/
theorem C06_close_effect (s s' : State) (i n old : Nat)
    (h : stepResize s i n true .lock old = some s') :
    s'.sem.closed = true ∧ s'.sem.queue = [] ∧ s'.maxSize = 0 ∧ s'.idle = [] ∧
    s'.size = s.size - s.idle.length ∧ s'.lock = none ∧
    s'.log = s.log ++ (drainEvs i s.idle ++ [.closedEv i]) ∧ s'.ops = s.ops.set i .done := by
  obtain ⟨hl, rfl⟩ := stepResize_close h
  exact ⟨rfl, rfl, rfl, rfl, rfl, hl, rfl, rfl⟩

/-- every drained object is detached and then destroyed, in queue order -/
theorem C06_drain_events (i : Nat) (l : List Obj) :
    drainEvs i l = l.flatMap (fun o => [.detach i o.id, .destroy i o.id]) :=
  drainEvs_eq i l

/-- **C06 (resize has no effect on a closed pool).**  The check is made under the mutex
that close() holds throughout, so there is no window between check and effect. -/
theorem C06_resize_noop_after_close (s s' : State) (i n : Nat)
    (hc : s.sem.closed = true) (h : stepResize s i n false .lock 0 = some s') :
    s' = (s.setOp i .done).emit [.resized i n] :=
  (stepResize_lock_closed hc h).2

/-- **C06 (a closed pool keeps nothing, in every reachable state).** Whenever the pool is
closed — at rest or with any number of operations in progress, after any history —
`max_size` is 0 (so `status()` reports 0), the idle queue is empty, and nobody is inside
the critical section of `resize`. -/
theorem C06_closed_pool_keeps_nothing (cfg : Cfg) (acts : List Action)
    (hc : (run (init cfg) acts).sem.closed = true) :
    (run (init cfg) acts).maxSize = 0 ∧ (run (init cfg) acts).idle = [] ∧
    (run (init cfg) acts).status.1 = 0 ∧ (run (init cfg) acts).lock = none := by
  have k := run_closedInv cfg acts
  refine ⟨k.max hc, k.idle hc, ?_, k.nolock hc⟩
  rw [State.status_eq]
  exact k.max hc

/-- **C06 (objects returned to a closed pool are discarded).** In every reachable state of
a closed pool an object coming back takes the discard branch of `return_object`: it is
detached and destroyed, never queued. -/
theorem C06_return_after_close_discards (cfg : Cfg) (acts : List Action) (s' : State) (i : Nat)
    (o : Obj) (hc : (run (init cfg) acts).sem.closed = true)
    (hop : (run (init cfg) acts).ops[i]? = some (.ret .lock o))
    (h : stepRet (run (init cfg) acts) i .lock o = some s') :
    s'.idle = [] ∧ s'.ops = (run (init cfg) acts).ops.set i (.ret .detach o) ∧
    s'.size = (run (init cfg) acts).size - 1 := by
  have k := run_closedInv cfg acts
  have a := run_acct cfg acts
  generalize run (init cfg) acts = s at *
  have := k.surplus a hc hop
  have hl : s.lockFree i = true := by simp [State.lockFree, k.nolock hc]
  simp only [stepRet, hl, Bool.not_true, Bool.false_eq_true, if_false, this, Option.some.injEq] at h
  subst h
  exact ⟨k.idle hc, rfl, rfl⟩

/-- **C06 (nothing left behind).** When a closed pool is at rest, the only objects that
still exist are those in callers' hands: `size` equals their number and the queue is empty. -/
theorem C06_closed_at_rest (cfg : Cfg) (acts : List Action)
    (hd : ∀ op ∈ (run (init cfg) acts).ops, op = Op.done)
    (hc : (run (init cfg) acts).sem.closed = true) :
    (run (init cfg) acts).idle = [] ∧
    (run (init cfg) acts).size = (run (init cfg) acts).out.length ∧
    (run (init cfg) acts).status = (0, (run (init cfg) acts).out.length, 0, 0) := by
  have k := run_closedInv cfg acts
  obtain ⟨-, -, -, hu, hz⟩ := (run_acct cfg acts).at_rest (run_link cfg acts) hd
  rw [k.idle hc, List.length_nil, Nat.zero_add] at hz
  refine ⟨k.idle hc, hz, ?_⟩
  rw [State.status_eq, k.max hc, hz, hu]
  simp

/-- the interleaving in which the pinned code kept an idle object in the closed pool: the
return of object 0 has pushed it back but not yet released its permit when close() runs.
Now close() drains the queue regardless of permits. -/
def C06_trace_idle : List Action :=
  [ .start (.get {}), .step 0 .run, .step 0 .run, .step 0 .run, .step 0 .ok, .step 0 .run,
    .start (.ret 0), .step 1 .run, .step 1 .run,
    .start .close, .step 2 .run, .step 2 .run,
    .step 1 .run ]

theorem C06_regression_idle :
    let s := run (init { maxSize := 1 }) C06_trace_idle
    (run? (init { maxSize := 1 }) C06_trace_idle).isSome = true ∧
    s.sem.closed = true ∧ (∀ op ∈ s.ops, op = Op.done) ∧ s.idle = [] ∧ s.size = 0 ∧
    Ev.destroy 2 0 ∈ s.log := by
  decide

/-- a resize() that was about to take the mutex when close() ran takes it afterwards: it sees the closed
flag under the mutex and leaves `max_size` at 0 -/
def C06_trace_max : List Action :=
  [ .start (.resize 3), .step 0 .run, .start .close, .step 1 .run, .step 1 .run, .step 0 .run ]

theorem C06_regression_max :
    let s := run (init { maxSize := 1 }) C06_trace_max
    (run? (init { maxSize := 1 }) C06_trace_max).isSome = true ∧
    s.sem.closed = true ∧ (∀ op ∈ s.ops, op = Op.done) ∧ s.maxSize = 0 ∧ s.sem.permits = 1 := by
  decide

end DeadpoolVerif
