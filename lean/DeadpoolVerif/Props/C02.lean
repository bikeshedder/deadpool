/-
C02 — no capacity is ever lost, no waiting caller is stranded, get() never panics and
never deadlocks.
-/
import DeadpoolVerif.Lemmas.NoResize
import DeadpoolVerif.Lemmas.Log
import DeadpoolVerif.Lemmas.Link

namespace DeadpoolVerif

/-- **C02 (capacity).** Whatever mixture of successful, failed, timed-out, cancelled or
panicking gets (and returns, takes, retains, status calls) a pool has served — any list of
actions without resize/close — once every operation has finished and every checked-out
object has been returned or taken, all `max_size` capacity tokens are free again, nobody
is registered as a waiter, and the `users` counter is back to zero. -/
theorem C02_capacity_restored (cfg : Cfg) (acts : List Action) (hn : noResize acts)
    (hd : (run (init cfg) acts).allDone) (ho : (run (init cfg) acts).out = []) :
    (run (init cfg) acts).sem.permits = cfg.maxSize ∧ (run (init cfg) acts).sem.assigned = [] ∧
    (run (init cfg) acts).sem.queue = [] ∧ (run (init cfg) acts).sem.closed = false ∧
    (run (init cfg) acts).users = 0 ∧
    (run (init cfg) acts).size = (run (init cfg) acts).idle.length ∧
    (run (init cfg) acts).idle.length ≤ cfg.maxSize ∧ (run (init cfg) acts).fault = none := by
  have a := run_acct cfg acts
  have n := run_norz cfg acts hn
  obtain ⟨hp, ha, hq, hu, hz⟩ := a.at_rest (run_link cfg acts) hd
  rw [ho, List.length_nil, Nat.add_zero] at hp hz
  rw [ho] at hu
  have := a.size_le
  rw [n.debt, n.max, run_cfg] at hp this
  exact ⟨hp, ha, hq, n.closed, hu, hz, hz ▸ this, a.nf⟩

/-- the zero-wait acquisition the capacity probe performs succeeds exactly while a token is free -/
theorem C02_probe_step (s : Sem) (hc : s.closed = false) :
    (0 < s.permits → (s.tryAcquire).2 = .ok) ∧ (s.permits = 0 → (s.tryAcquire).2 = .noPermits) :=
  ⟨fun hp => by rw [Sem.tryAcquire_of_free hc hp], fun hp => by rw [Sem.tryAcquire_of_empty hc hp]⟩

/-- **C02 (no stranded waiter).** In every reachable state a caller that is blocked in
`acquire` and has not been woken is blocked for a reason: no token is free and the pool is
not closed. -/
theorem C02_no_stranded (cfg : Cfg) (acts : List Action) (i : Nat)
    (hi : i ∈ (run (init cfg) acts).sem.queue) :
    (run (init cfg) acts).sem.permits = 0 ∧ (run (init cfg) acts).sem.closed = false :=
  (run_link cfg acts).wf.of_queue_ne_nil (List.ne_nil_of_mem hi)

/-- a token that becomes free goes to the caller that has waited longest, at once -/
theorem C02_release_wakes_oldest (s : Sem) (i : Nat) (rest : List Nat) (h : s.queue = i :: rest) :
    i ∈ (s.addPermits 1).assigned ∧ (s.addPermits 1).queue = rest :=
  Sem.addPermits_one_cons h

/-- **C02 (woken waiters complete).** A caller suspended in `acquire` that is no longer in
the queue (it was handed a token, or the pool was closed) completes the acquisition at
its next poll: it proceeds with the token or fails with `Closed`. -/
theorem C02_woken_completes (cfg : Cfg) (acts : List Action) (i : Nat) (t : Timeouts)
    (hq : (run (init cfg) acts).ops[i]? = some (.get t .queued))
    (hnq : i ∉ (run (init cfg) acts).sem.queue) :
    ∃ s', stepOp (run (init cfg) acts) i .run = some s' ∧
      (s'.ops[i]? = some (.get t .pop) ∨ s'.ops[i]? = some (.get t (.dropUsers .closed))) := by
  have l := run_link cfg acts
  generalize run (init cfg) acts = s at *
  simp only [stepOp, hq, stepGet]
  cases hc : s.sem.closed with
  | true =>
    rw [Sem.pollAcquire_of_closed i hc]
    exact ⟨_, rfl, .inr (getElem?_set_self' hq)⟩
  | false =>
    -- open, so still registered (`Link.queued`), and not in the queue: a token was assigned
    have hw := (l.queued i _ hq rfl).resolve_right (by simp [hc])
    have ha : i ∈ s.sem.assigned := (Sem.mem_waiting.mp hw).resolve_left hnq
    rw [Sem.pollAcquire_of_assigned hc ha]
    exact ⟨_, rfl, .inl (getElem?_set_self' hq)⟩

/-- **C02 (get never panics on its own).** No counter ever underflows / wraps in any
reachable state; the only panics are those the scripted environment injects. -/
theorem C02_no_fault (cfg : Cfg) (acts : List Action) : (run (init cfg) acts).fault = none :=
  (run_acct cfg acts).nf

/-- an outcome every unfinished operation accepts once the mutex is free for it: a callback may
answer `ok`, every other step just runs -/
def Op.nextOc : Op → Outcome
  | .get _ (.recycling ..) | .get _ (.creating _) | .get _ (.postCreate ..) => .ok
  | _ => .run

/-- no operation other than one waiting for the slots mutex is ever stuck (in any state) -/
theorem enabled_of_lockFree {s : State} {i : Nat} {op : Op} (h : s.ops[i]? = some op)
    (hnd : op ≠ .done) (hf : s.lockFree i = true) (hl : s.lock = some i → op.holdsLock = true) :
    ∃ s', stepOp s i op.nextOc = some s' := by
  have hf' : (!s.lockFree i) = false := by rw [hf]; rfl
  -- past the mutex test every leaf of every step function is `some _`: `isSome` goes through the
  -- `if`s (`apply_ite`), a `match` on a semaphore answer or on the idle queue is split
  refine Option.isSome_iff_exists.mp ?_
  cases op with
  | done => exact absurd rfl hnd
  | status => simp only [stepOp, h, stepStatus, hf']; rfl
  | retain keep => simp only [stepOp, h, stepRetain, hf']; rfl
  | resize n c pc old =>
    -- at `resize.lock` the mutex is not held by the resize itself, hence by nobody
    have : pc = .lock → s.lock = none := by
      rintro rfl
      cases hk : s.lock with
      | none => rfl
      | some j =>
        have : j = i := by simpa [State.lockFree, hk] using hf
        cases hl (this ▸ hk)
    cases pc
    case lock =>
      simp only [stepOp, h, Op.nextOc, stepResize, BEq.rfl, if_true, this rfl, apply_ite Option.isSome,
        Option.isSome_some, ite_self]
    all_goals simp only [stepOp, h, Op.nextOc, stepResize, BEq.rfl, if_true]
    repeat' split
    all_goals rfl
  | ret pc o =>
    cases pc <;> simp only [stepOp, h, stepRet, hf',
      apply_ite Option.isSome, Option.isSome_some, ite_self]
    all_goals rfl
  | take pc o add =>
    cases pc <;> simp only [stepOp, h, stepTake, hf']
    all_goals rfl
  | get t pc =>
    cases pc <;> simp only [stepOp, h, Op.nextOc, stepGet, hf', Bool.false_eq_true, if_false]
    repeat' split
    all_goals rfl

/-- **C02 (no deadlock).** In every reachable state every unfinished operation can take a
step, or waits for the slots mutex whose owner (a resize in its critical region) can take a
step.  (A queued getter's step is its next poll.) -/
theorem C02_progress (cfg : Cfg) (acts : List Action) (i : Nat) (op : Op)
    (h : (run (init cfg) acts).ops[i]? = some op) (hnd : op ≠ .done) :
    (∃ oc s', stepOp (run (init cfg) acts) i oc = some s') ∨
    (∃ j op', (run (init cfg) acts).lock = some j ∧ j ≠ i ∧
      (run (init cfg) acts).ops[j]? = some op' ∧ op'.holdsLock = true ∧
      ∃ s', stepOp (run (init cfg) acts) j .run = some s') := by
  have l := run_link cfg acts
  generalize run (init cfg) acts = s at *
  cases hk : s.lock with
  | none => exact .inl ⟨_, enabled_of_lockFree h hnd (by simp [State.lockFree, hk]) (by simp [hk])⟩
  | some j =>
    -- the owner, a resize inside its critical region, can always go on
    obtain ⟨op', h1, h2⟩ := (l.lockOwner j).mp hk
    have en : ∃ s', stepOp s j op'.nextOc = some s' :=
      enabled_of_lockFree h1 (by rintro rfl; cases h2) (by simp [State.lockFree, hk]) fun _ => h2
    by_cases e : j = i
    · subst e
      exact .inl ⟨_, en⟩
    · have : op'.nextOc = .run := by cases op' <;> first | rfl | cases h2
      exact .inr ⟨j, op', rfl, e, h1, h2, this ▸ en⟩

/-! Non-vacuity -/

def C02_demo_cfg : Cfg := { maxSize := 1, rt := true }

/-- one successful get, a second getter queues and is cancelled, a third one fails in
`create`; then the object comes back -/
def C02_demo : List Action :=
  let g : Spec := .get {}
  [ .start g, .step 0 .run, .step 0 .run, .step 0 .run, .step 0 .ok, .step 0 .run,
    .start g, .step 1 .run, .step 1 .run, .step 1 .cancel, .step 1 .run,
    .start (.ret 0), .step 2 .run, .step 2 .run, .step 2 .run,
    .start g, .step 3 .run, .step 3 .run, .step 3 .run, .step 3 .err,
    .step 3 .run, .step 3 .run, .step 3 .run, .step 3 .err, .step 3 .run, .step 3 .run ]

example : noResize C02_demo := by unfold noResize; decide
example : (run? (init C02_demo_cfg) C02_demo).isSome = true := by decide
example : (run (init C02_demo_cfg) C02_demo).allDone := by unfold State.allDone; decide
example : (run (init C02_demo_cfg) C02_demo).out = [] := by decide
example : (run (init C02_demo_cfg) C02_demo).sem.permits = 1 := by decide

end DeadpoolVerif
