/-
C14 — SyncWrapper keeps blocking work and destruction off the async thread.

Property theorems only.  `run? init acts = some s` ranges over every history of interact calls
(completing, panicking, cancelled before or while the closure runs), every order in which the
blocking pool lets the spawned tasks at the mutex, and a drop of the wrapper at any time.
-/
import DeadpoolVerif.Lemmas.Sync

namespace DeadpoolVerif
namespace Sy

/-- **C14 (the history is good).** Whatever happens, the events that touch the wrapped value
form a history accepted by `goodLog`: construction on a pool thread, then closures one at a
time, each on a pool thread and each ended before anything else touches the value, then at
most one destructor run, on a pool thread and not inside any closure, and nothing after it. -/
theorem C14_history_good (acts : List Action) (s : State) (h : run? init acts = some s) :
    goodLog s.log = some (phaseOf s) :=
  (reach_good h).scanned

/-- **C14 (destruction).** The destructor runs on a pool thread; when it runs no closure is
using the value (every closure that began has ended — see `C14_closure_exclusive`), and nothing
touches the value afterwards: it is the last event of the history. -/
theorem C14_destroy_last (acts : List Action) (s : State) (h : run? init acts = some s)
    (pre post : List Ev) (t : Thr) (hl : s.log = pre ++ .destroy t :: post) :
    t = .blocking ∧ post = [] ∧ s.value = false := by
  obtain ⟨p1, p2, h2, h3⟩ := goodLog_split (hl ▸ (reach_good h).scanned) (by simp)
  cases p1 <;> cases t <;> cases h2
  obtain ⟨rfl, hg⟩ := scan_gone h3
  exact ⟨rfl, rfl, phaseOf_eq_gone.mp hg⟩

/-- **C14 (closures).** A closure runs on a pool thread, and the next thing that happens to the
value is the end of that same closure: no other closure and no destructor overlaps it —
whether or not its `interact()` future was cancelled in the meantime. -/
theorem C14_closure_exclusive (acts : List Action) (s : State) (h : run? init acts = some s)
    (pre post : List Ev) (i : Nat) (t : Thr) (hl : s.log = pre ++ .begin i t :: post) :
    t = .blocking ∧ (post = [] ∧ s.lock = some i ∨ ∃ p rest, post = .finish i p :: rest) := by
  obtain ⟨p1, p2, h2, h3⟩ := goodLog_split (hl ▸ (reach_good h).scanned) (by simp)
  cases p1 <;> cases t <;> cases h2
  refine ⟨rfl, ?_⟩
  cases post with
  | nil =>
    exact Or.inl ⟨rfl, (phaseOf_eq_inClosure.mp (Option.some.inj h3).symm).2⟩
  | cons e rest =>
    -- in a closure the automaton accepts only the end of that closure
    cases e <;> simp only [scan, Phase.next, Option.bind_eq_some_iff, Option.ite_none_right_eq_some, reduceCtorEq,
      false_and, exists_false] at h3
    obtain ⟨_, ⟨rfl, -⟩, -⟩ := h3
    exact Or.inr ⟨_, _, rfl⟩

/-- **C14 (exactly once).** The destructor has run at most once; it has run exactly when the
value is gone; and once the wrapper is dropped it is never lost: either it has run, or the drop
task is pending and the blocking pool can always make progress towards it (the mutex is free
and the drop task can take it, or the closure holding it can finish). -/
theorem C14_destroy_exactly_once (acts : List Action) (s : State) (h : run? init acts = some s) :
    s.destroyed ≤ 1 ∧ (s.destroyed = 1 ↔ s.value = false) ∧
    (s.alive = false →
      s.destroyed = 1 ∨
      (s.destroyed = 0 ∧ s.dropPending = true ∧
        ((s.lock = none ∧ ∃ s', step s .destroy = some s' ∧ s'.destroyed = 1) ∨
         (∃ i s', s.lock = some i ∧ step s (.finish i) = some s' ∧ s'.lock = none ∧ s'.dropPending = true)))) := by
  have inv := reach_inv h
  have hd := inv.destroyedCount
  refine ⟨by rw [hd]; split <;> omega, by rw [hd]; cases s.value <;> simp, ?_⟩
  intro ha
  rcases inv.deadPending ha with hp | hv
  · right
    obtain ⟨hv, _⟩ := inv.pendingValue hp
    refine ⟨by simp [hd, hv], hp, ?_⟩
    cases hl : s.lock with
    | none =>
      left
      simp [step, hp, hl, hv, hd]
    | some i =>
      right
      obtain ⟨t, ht, hr⟩ := (inv.lockRunning i).mp hl
      refine ⟨i, ?_⟩
      cases hb : t.beh <;> simp [step, ht, hr, hl, hb, setTask, hp]
  · left; simp [hd, hv]

/-- **C14 (panics).** A closure that panicked is reported as `InteractError::Panic` (its future,
unless dropped, can only return `Panic`), `Ok` is only ever reported for a closure that returned
normally, and `Aborted` is never reported. -/
theorem C14_panic_reported (acts : List Action) (s : State) (h : run? init acts = some s)
    (i : Nat) (t : Task) (ht : s.tasks[i]? = some t) :
    (Ev.finish i true ∈ s.log → t.pc = .done .panic ∧ (∀ r, t.delivered = some r → r = .panic)) ∧
    (t.delivered = some .ok → t.beh = .ok ∧ Ev.finish i false ∈ s.log) ∧
    t.delivered ≠ some .aborted := by
  have inv := reach_inv h
  refine ⟨?_, ?_, ?_⟩
  · intro hf
    obtain ⟨u, hu, hd⟩ := inv.finished i true hf
    rw [ht] at hu; cases hu
    refine ⟨hd, ?_⟩
    intro r hr
    have := inv.delivered i t r ht hr
    rw [hd] at this; cases this; rfl
  · intro hd
    exact inv.doneOk i t ht (inv.delivered i t .ok ht hd)
  · intro hd
    exact inv.notAborted i t ht (inv.delivered i t .aborted ht hd)

/-- **C14 (poisoned from then on).** `is_mutex_poisoned()` is true exactly when some closure has
panicked so far; since the history only grows it stays true, no later closure is run on the
value, and every later `interact()` reports `Panic`. -/
theorem C14_poisoned_from_then_on (acts : List Action) (s : State) (h : run? init acts = some s) :
    (s.poisoned = true ↔ ∃ i, Ev.finish i true ∈ s.log) ∧
    (s.poisoned = true → ∀ a s', step s a = some s' →
        s'.poisoned = true ∧ (∀ i, a ≠ .begin i) ∧
        (∀ i r t, a = .result i r → s.tasks[i]? = some t → t.pc = .spawned → r = .panic)) := by
  refine ⟨(reach_good h).poisoned, fun hp a s' hs => ⟨step_poisoned hs hp, ?_, ?_⟩⟩
  · -- `begin` is guarded by `poisoned = false`
    rintro i rfl
    simp only [step] at hs
    split at hs <;> simp [hp] at hs
  · -- a task that never ran reports `spawnedOutcome`, which is `Panic` on a poisoned mutex
    rintro i r t rfl ht hpc
    simp only [step, ht, hpc, spawnedOutcome, hp, if_true, Option.some.injEq] at hs
    split at hs <;> simp only [Option.ite_none_right_eq_some, reduceCtorEq] at hs
    exact hs.1.symm

/-- **C14 (cancellation changes nothing).** Dropping an `interact()` future does not touch the
value, the mutex, the history or the pending tasks: what the blocking pool may do next is the
same as if the future had been kept. -/
theorem C14_cancel_frame (s s' : State) (i : Nat) (h : step s (.cancel i) = some s') :
    s'.log = s.log ∧ s'.lock = s.lock ∧ s'.value = s.value ∧ s'.poisoned = s.poisoned ∧
    s'.destroyed = s.destroyed ∧ s'.dropPending = s.dropPending ∧
    s'.tasks.map (fun t => (t.beh, t.pc)) = s.tasks.map (fun t => (t.beh, t.pc)) := by
  simp only [step] at h
  split at h <;> simp only [Option.ite_none_right_eq_some, Option.some.injEq, reduceCtorEq] at h
  obtain ⟨-, rfl⟩ := h
  rename_i t ht
  exact ⟨rfl, rfl, rfl, rfl, rfl, rfl, set_map_self _ ht rfl⟩

/-! Non-vacuity: a history with a panicking closure, a closure cancelled while it runs, a call
on the poisoned wrapper, the drop, and the destructor -/
example : ∃ s, run? init [.call .ok, .call .panic, .begin 0, .cancel 0, .finish 0, .begin 1, .finish 1,
    .result 1 .panic, .call .ok, .result 2 .panic, .dropw, .destroy] = some s ∧
    s.destroyed = 1 ∧ s.poisoned = true ∧
    s.log = [.create .blocking, .begin 0 .blocking, .finish 0 false, .begin 1 .blocking, .finish 1 true,
             .destroy .blocking] := by
  refine ⟨_, rfl, ?_, ?_, ?_⟩ <;> decide

/-- a cancelled closure that was still queued when the wrapper was dropped may run before the
destructor — and the destructor then waits for it -/
example : ∃ s, run? init [.call .ok, .cancel 0, .dropw, .begin 0] = some s ∧
    step s .destroy = none ∧ (step s (.finish 0)).isSome := by
  refine ⟨_, rfl, ?_, ?_⟩ <;> decide

end Sy
end DeadpoolVerif
