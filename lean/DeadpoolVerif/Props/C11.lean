/-
C11 — status() is exact at rest and never nonsensical.
-/
import DeadpoolVerif.Lemmas.NoResize
import DeadpoolVerif.Lemmas.GrowOnly
import DeadpoolVerif.Lemmas.Link

namespace DeadpoolVerif

/-- the op is a caller blocked in get() -/
def Op.qW (op : Op) : Nat := if op.isQ then 1 else 0

/-- the op is a caller inside get() (between entering and leaving / receiving the object) -/
def Op.inGetW : Op → Nat
  | .get _ pc => pc.usersW
  | _ => 0

/-- No pool operation is in progress: every operation has finished, except callers that
are blocked in get() waiting for a slot (registered in the queue, not woken). -/
structure AtRest (s : State) : Prop where
  ops : ∀ op ∈ s.ops, op = Op.done ∨ op.isQ = true
  noWoken : s.sem.assigned = []
  open_ : s.sem.closed = true → ∀ op ∈ s.ops, op = Op.done

/-- number of callers blocked in get() -/
def State.blocked (s : State) : Nat := sumW Op.qW s.ops

theorem rest_sums (ops : List Op) (h : ∀ op ∈ ops, op = Op.done ∨ op.isQ = true) :
    sumW Op.usersW ops = sumW Op.qW ops ∧ sumW Op.sizeW ops = 0 ∧ sumW Op.permW ops = 0 ∧
    sumW Op.objW ops = 0 := by
  refine ⟨sumW_congr ?_, sumW_eq_zero_iff.mpr ?_, sumW_eq_zero_iff.mpr ?_, sumW_eq_zero_iff.mpr ?_⟩ <;>
    (intro op hop; obtain rfl | ⟨t, rfl⟩ := (h op hop).imp_right Op.eq_of_isQ <;> rfl)

/-- **C11 (exact at rest).** Whenever no pool operation is in progress — in any reachable
state, after failures, cancellations, takes, retains, resizes, close — status() reports
exactly the configured `max_size`, the number of objects that exist (idle plus checked
out), the number idle, and the number of callers blocked in get(). -/
theorem C11_exact_at_rest (cfg : Cfg) (acts : List Action)
    (r : AtRest (run (init cfg) acts)) :
    (run (init cfg) acts).status =
      ((run (init cfg) acts).maxSize,
       (run (init cfg) acts).idle.length + (run (init cfg) acts).out.length,
       (run (init cfg) acts).idle.length,
       (run (init cfg) acts).blocked) := by
  have a := run_acct cfg acts
  have l := run_link cfg acts
  generalize run (init cfg) acts = s at *
  obtain ⟨hu, hz, hp, ho⟩ := rest_sums s.ops r.ops
  have us := a.usr
  have sz := a.siz
  have cv := a.cov
  rw [hu] at us
  rw [hz] at sz
  rw [ho, hp] at cv
  simp only [Sem.tokens, r.noWoken, List.length_nil, Nat.add_zero] at cv
  -- if somebody is blocked, no token is free, hence nothing is idle
  have key : sumW Op.qW s.ops = 0 ∨ s.idle.length = 0 :=
      (Nat.eq_zero_or_pos _).imp_right fun hpos => by
    obtain ⟨op, hop, hpos'⟩ := exists_pos_of_sumW_pos Op.qW s.ops hpos
    obtain ⟨j, hj⟩ := List.getElem?_of_mem hop
    have hq : op.isQ = true := by
      simp only [Op.qW] at hpos'
      split at hpos'
      · assumption
      · cases hpos'
    rcases l.queued j op hj hq with hw | hc
    · simp only [Sem.waiting, r.noWoken, List.append_nil] at hw
      rw [(l.wf.of_queue_ne_nil (List.ne_nil_of_mem hw)).1] at cv
      exact Nat.le_zero.mp cv
    · cases r.open_ hc op hop
      cases hq
  rw [State.status_eq, State.blocked, sz, us]
  rcases key with h | h <;> simp [h]

theorem inGet_bound (ops : List Op) :
    sumW Op.usersW ops ≤ sumW Op.inGetW ops + sumW Op.sizeW ops := by
  rw [← sumW_add]
  refine sumW_le _ _ ops fun op => ?_
  cases op with
  | get t pc => simp [Op.usersW, Op.inGetW]
  | ret pc o | take pc o a => cases pc <;> simp [Op.usersW, Op.inGetW, Op.sizeW]
  | _ => simp [Op.usersW]

/-- the plausibility clause for one state -/
structure Plausible (s : State) : Prop where
  /-- `size` never exceeds the number of objects that exist or are being created -/
  size_le_objects : s.status.2.1 ≤ s.idle.length + s.out.length + sumW Op.objW s.ops
  /-- `available` never exceeds `size` -/
  available_le_size : s.status.2.2.1 ≤ s.status.2.1
  /-- `waiting` never exceeds the number of callers currently inside get() -/
  waiting_le_callers : s.status.2.2.2 ≤ sumW Op.inGetW s.ops
  /-- no counter has wrapped -/
  no_wrap : s.fault = none
  /-- `size` exceeds `max_size` at most by the residue of a shrink (ghost `debt`) -/
  size_le_max : s.status.2.1 ≤ s.maxSize + s.debt
  max_reported : s.status.1 = s.maxSize

/-- **C11 (plausible always).** In every reachable state, at every intermediate schedule
point, the figures status() would report are plausible. -/
theorem C11_plausible (cfg : Cfg) (acts : List Action) : Plausible (run (init cfg) acts) := by
  have a := run_acct cfg acts
  generalize run (init cfg) acts = s at *
  have d := sumW_le Op.sizeW Op.objW s.ops Op.sizeW_le_objW
  have g := inGet_bound s.ops
  have sz := a.siz
  have us := a.usr
  refine ⟨?_, ?_, ?_, a.nf, ?_, by rw [State.status_eq]⟩ <;> rw [State.status_eq]
  · show s.size ≤ _
    omega
  · exact Nat.sub_le _ _
  · show s.users - s.size ≤ _
    omega
  · exact a.size_le

/-- without resize / close, `size ≤ max_size` in every reachable state -/
theorem C11_size_le_max_unless_resized (cfg : Cfg) (acts : List Action) (h : noResize acts) :
    (run (init cfg) acts).status.2.1 ≤ (run (init cfg) acts).status.1 := by
  have sl := (run_acct cfg acts).size_le
  rw [(run_norz cfg acts h).debt] at sl
  rw [State.status_eq]
  exact sl

/-! Non-vacuity: a pool of size 1 with the object checked out and two callers blocked -/

def C11_demo_cfg : Cfg := { maxSize := 1 }

def C11_demo : List Action :=
  let g : Spec := .get {}
  [ .start g, .step 0 .run, .step 0 .run, .step 0 .run, .step 0 .ok, .step 0 .run,
    .start g, .step 1 .run, .step 1 .run, .start g, .step 2 .run, .step 2 .run ]

example : (run? (init C11_demo_cfg) C11_demo).isSome = true := by decide
example : AtRest (run (init C11_demo_cfg) C11_demo) := by
  refine ⟨by decide, by decide, by decide⟩
example : (run (init C11_demo_cfg) C11_demo).status = (1, 1, 0, 2) := by decide

/-- **C11 (`size` exceeds `max_size` only as the residue of a shrink).** In every history
without a shrink and without `close()` — grows and no-op resizes allowed — `size` never exceeds
the current `max_size`, at any schedule point. -/
theorem C11_size_le_max_without_shrink (cfg : Cfg) (acts : List Action)
    (h : GrowOnly (init cfg) acts) :
    (run (init cfg) acts).size ≤ (run (init cfg) acts).maxSize := by
  have := (run_acct cfg acts).size_le
  rwa [run_debt_zero (init cfg) acts rfl h] at this

end DeadpoolVerif
