/-
C01 — a managed pool whose max_size is not being changed never has more than
max_size live objects.
-/
import DeadpoolVerif.Lemmas.NoResize
import DeadpoolVerif.Lemmas.Log
import DeadpoolVerif.Lemmas.GrowOnly
import DeadpoolVerif.Lemmas.Acct

namespace DeadpoolVerif

/-- the pool's object an operation has in hand: like `Op.held`, but an object that is
past the point of no return of `Object::take` (it is the caller's now) or that is being
discarded as surplus no longer counts -/
def Op.pooled : Op → Option Obj
  | .ret .detach _ => none
  | .take .addPermits .. | .take .detach .. => none
  | op => op.held

/-- objects of the pool that exist: idle, checked out, or in the hands of an operation -/
def State.pooled (s : State) : List Obj := s.idle ++ s.out ++ s.ops.filterMap Op.pooled

/-- the same count from the ghost weights; additionally counts objects *being created* -/
def State.liveCount (s : State) : Nat := s.idle.length + s.out.length + sumW Op.objW s.ops

theorem Op.pooled_le_objW (op : Op) : (op.pooled.toList).length ≤ op.objW := by
  cases op with
  | get t pc => cases pc <;> simp [Op.pooled, Op.held, Op.objW, GPc.objW]
  | ret pc o => cases pc <;> simp [Op.pooled, Op.held, Op.objW]
  | take pc o a => cases pc <;> simp [Op.pooled, Op.objW]
  | _ => simp [Op.pooled, Op.held]

theorem pooled_length_le_liveCount (s : State) : s.pooled.length ≤ s.liveCount := by
  have := sumW_le _ _ s.ops Op.pooled_le_objW
  simp only [State.pooled, State.liveCount, List.length_append, length_filterMap_eq_sumW]
  omega

/-- **C01 (main).** Without resize / close, after *any* list of actions — any number of
tasks, any interleaving of their atomic steps, any outcome (ok, error, pending, panic,
deadline, cancel) of any callback, both queue modes, any hooks, any `max_size` — the
objects that exist or are being created or recycled never exceed `max_size`. -/
theorem C01_live_le_max (cfg : Cfg) (acts : List Action) (h : noResize acts) :
    (run (init cfg) acts).liveCount ≤ cfg.maxSize := by
  have n := run_norz cfg acts h
  have := (run_acct cfg acts).live_le
  rwa [n.debt, n.max, run_cfg] at this

/-- the objects that exist (ghost structure, tied to the implementation's ground truth
by the correspondence check) never exceed `max_size` -/
theorem C01_pooled_le_max (cfg : Cfg) (acts : List Action) (h : noResize acts) :
    (run (init cfg) acts).pooled.length ≤ cfg.maxSize :=
  Nat.le_trans (pooled_length_le_liveCount _) (C01_live_le_max cfg acts h)

/-- no more than `max_size` callers hold an object at the same time -/
theorem C01_holders_le_max (cfg : Cfg) (acts : List Action) (h : noResize acts) :
    (run (init cfg) acts).out.length ≤ cfg.maxSize := by
  have := C01_live_le_max cfg acts h
  simp only [State.liveCount] at this
  omega

/-- the manager is never asked to create an object that would take the pool over the
limit: in the state right after any `create` call was issued (or at any other time), the
operations inside `Manager::create` count towards the limit. -/
theorem C01_create_within_limit (cfg : Cfg) (acts : List Action) (h : noResize acts) (n : Nat) :
    (run (init cfg) (acts.take n)).liveCount ≤ cfg.maxSize :=
  C01_live_le_max cfg _ (fun a ha => h a (List.mem_of_mem_take ha))

/-- `size` (what `status()` reports) never exceeds `max_size` either -/
theorem C01_size_le_max (cfg : Cfg) (acts : List Action) (h : noResize acts) :
    (run (init cfg) acts).size ≤ cfg.maxSize := by
  have n := run_norz cfg acts h
  have := (run_acct cfg acts).size_le
  rwa [n.debt, n.max, run_cfg] at this

/-! Non-vacuity: a concrete history with a rejected recycle, a cancelled and a panicking
get on a pool of size 2 meets the hypothesis and attains the bound. -/

def C01_demo_cfg : Cfg := { maxSize := 2, pre := [false], postC := [true], rt := true }

def C01_demo : List Action :=
  let g : Spec := .get {}
  [ .start g, .step 0 .run, .step 0 .run, .step 0 .run, .step 0 .ok, .step 0 .run, .step 0 .ok,
    .start (.ret 0), .step 1 .run, .step 1 .run, .step 1 .run,
    .start g, .step 2 .run, .step 2 .run, .step 2 .run, .step 2 .err,   -- pre_recycle hook rejects 0
    .step 2 .run, .step 2 .run, .step 2 .run, .step 2 .pending,          -- creating, suspended
    .start g, .step 3 .run, .step 3 .run, .step 3 .run, .step 3 .panic,  -- second creator panics
    .step 2 .ok, .step 2 .run, .step 2 .pending, .step 2 .cancel ]      -- post_create hook cancelled

example : noResize C01_demo := by unfold noResize; decide
example : (run? (init C01_demo_cfg) C01_demo).isSome = true := by decide
/-- after 24 actions two gets are inside `Manager::create` at once: the bound is attained -/
example : (run (init C01_demo_cfg) (C01_demo.take 24)).liveCount = 2 := by decide

/-- **C01 (`max_size` standing still or growing).** The limit is in force whenever
`max_size` is not being lowered: in every history in which no `resize` takes the mutex with a
target below the current `max_size` (calls with the current value and growing calls are
allowed, any number of them, interleaved with everything else) and the pool is not closed,
the objects that exist or are being created never exceed the *current* `max_size`. -/
theorem C01_live_le_max_grow_only (cfg : Cfg) (acts : List Action)
    (h : GrowOnly (init cfg) acts) :
    (run (init cfg) acts).liveCount ≤ (run (init cfg) acts).maxSize := by
  have := (run_acct cfg acts).live_le
  rwa [run_debt_zero (init cfg) acts rfl h] at this

/-- the premise is met by a history with a no-op resize, a grow and gets around them -/
example :
    GrowOnly (init { maxSize := 1 })
      [ .start (.get {}), .step 0 .run, .step 0 .run, .step 0 .run, .step 0 .ok, .step 0 .run,
        .start (.resize 1), .step 1 .run, .step 1 .run,
        .start (.resize 2), .step 2 .run, .step 2 .run, .step 2 .run,
        .start (.get {}), .step 3 .run, .step 3 .run, .step 3 .run, .step 3 .ok, .step 3 .run ] := by
  decide

end DeadpoolVerif
