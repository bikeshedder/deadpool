/-
C10 — timeouts, non-blocking mode and missing runtimes behave as documented
(managed pool; the unmanaged pool's single timeout is `U.C10_unmanaged_timeout` in `Props/C12.lean`).
`Lemmas.Link` is imported for the check of this property, which also audits `run_acct` and `run_link`.
-/
import DeadpoolVerif.Model.Builder
import DeadpoolVerif.Lemmas.GetLocal
import DeadpoolVerif.Lemmas.Link

namespace DeadpoolVerif

/-- **C10 (zero wait never waits).** In every reachable state no get() whose wait timeout
is zero is suspended in `Semaphore::acquire`. -/
theorem C10_zero_wait_never_waits (cfg : Cfg) (acts : List Action) :
    ∀ op ∈ (run (init cfg) acts).ops, zeroWaitOk op :=
  ops_forall_of_getStep _ (fun _ => trivial) GetStep.zeroWaitOk_next
    (fun x hx => by cases x <;> trivial) cfg acts

/-- **C10 (zero wait decides at once).** The acquisition step of a zero-wait get never
suspends: closed pool → `Closed`; no free slot → `Timeout(Wait)`; otherwise it takes a
slot.  The semaphore is untouched in the two failing cases. -/
theorem C10_zero_wait_decides (s s' : State) (i : Nat) (t : Timeouts) (hz : t.wait = .zero)
    (h : stepGet s i t .acquire .run = some s') :
    (s.sem.closed = true → s' = s.setOp i (.get t (.dropUsers .closed))) ∧
    (s.sem.closed = false → s.sem.permits = 0 →
      s' = s.setOp i (.get t (.dropUsers .timeoutWait))) ∧
    (s.sem.closed = false → 0 < s.sem.permits →
      s'.ops = s.ops.set i (.get t .pop) ∧ s'.sem.permits + 1 = s.sem.permits ∧
      s'.sem.waiting = s.sem.waiting) := by
  dsimp only [stepGet] at h
  simp only [hz] at h
  refine ⟨fun hc => ?_, fun hc hp => ?_, fun hc hp => ?_⟩
  · rw [Sem.tryAcquire_of_closed hc] at h
    exact (Option.some.inj h).symm
  · rw [Sem.tryAcquire_of_empty hc hp] at h
    exact (Option.some.inj h).symm
  · rw [Sem.tryAcquire_of_free hc hp] at h
    cases h
    exact ⟨rfl, Nat.sub_add_cancel hp, rfl⟩

/-- **C10 (wait deadline).** When the deadline of a finite wait timeout passes: a slot that
was already handed to this caller wins (tokio polls the inner future first); otherwise the
get fails with `Timeout(Wait)` and its `Acquire` future is dropped, which un-registers the
waiter. -/
theorem C10_wait_deadline (s s' : State) (i : Nat) (t : Timeouts)
    (hw : t.wait = .finite) (hrt : s.cfg.rt = true) (hc : s.sem.closed = false)
    (h : stepGet s i t .queued .deadline = some s') :
    (i ∈ s.sem.assigned → s'.ops = s.ops.set i (.get t .pop)) ∧
    (i ∉ s.sem.assigned → s.sem.permits = 0 →
      s'.ops = s.ops.set i (.get t (.dropUsers .timeoutWait)) ∧
      ∃ sem1, s.sem.pollAcquire i = (sem1, .pending) ∧ s'.sem = sem1.dropAcquire i) := by
  dsimp only [stepGet] at h
  simp only [hw, hrt] at h
  refine ⟨fun ha => ?_, fun ha hp => ?_⟩
  · rw [Sem.pollAcquire_of_assigned hc ha] at h
    cases h; rfl
  · obtain ⟨sem1, h1⟩ := Sem.pollAcquire_of_empty hc ha hp
    rw [h1] at h
    cases h
    exact ⟨rfl, sem1, h1, rfl⟩

/-- a deadline is only meaningful for a finite timeout with a runtime -/
theorem C10_deadline_needs_timeout (s : State) (i : Nat) (t : Timeouts)
    (h : ¬ (t.wait = .finite ∧ s.cfg.rt = true)) : stepGet s i t .queued .deadline = none :=
  if_neg (by simpa using h)

/-- **C10 (create timeout).** A create timeout (deadline while `Manager::create` is pending,
or a zero timeout whose first poll is pending) yields `Timeout(Create)`; the slot is
released by the very next step of the unwinding get. -/
theorem C10_create_timeout_releases (s : State) (i : Nat) (t : Timeouts) :
    (t.create = .finite →
      stepGet s i t (.creating true) .deadline = some (s.setOp i (.get t (.dropPermit .timeoutCreate)))) ∧
    (t.create = .zero → ∀ b,
      stepGet s i t (.creating b) .pending = some (s.setOp i (.get t (.dropPermit .timeoutCreate)))) ∧
    (∀ r, stepGet s i t (.dropPermit r) .run =
      some ({ s with sem := s.sem.addPermits 1 }.setOp i (.get t (.dropUsers r)))) := by
  refine ⟨?_, ?_, ?_⟩
  · intro h; dsimp only [stepGet]; simp [h, failPermit]
  · intro h b; dsimp only [stepGet]; simp [h, failPermit]
  · intro r; rfl

/-- **C10 (recycle timeout).** A recycle timeout counts as a rejected object: the get
discards the object exactly as if `Manager::recycle` had returned an error, and goes on. -/
theorem C10_recycle_timeout_is_reject (s : State) (i : Nat) (t : Timeouts) (o : Obj) (k : Nat)
    (hk : k = s.cfg.pre.length) :
    (t.recycle = .finite →
      stepGet s i t (.recycling k o true) .deadline = stepGet s i t (.recycling k o true) .err) ∧
    (t.recycle = .zero → s.cfg.rt = true →
      stepGet s i t (.recycling k o false) .pending = stepGet s i t (.recycling k o false) .err) := by
  subst hk
  constructor
  · intro h; dsimp only [stepGet]; simp [h]
  · intro h _; dsimp only [stepGet]; simp [h, Cfg.recycleAsync]

/-- **C10 (no runtime, per-call timeouts).** Without a runtime a per-call recycle timeout or
a finite wait timeout makes get() fail with `NoRuntimeSpecified` before it touches the
semaphore, the idle queue or any object; a create timeout does so when (and only when) an
object would have to be created, with no `create` call issued. -/
theorem C10_no_runtime (s : State) (i : Nat) (t : Timeouts) (hrt : s.cfg.rt = false) :
    (t.recycle ≠ .none →
      stepGet s i t .enter .run = some ((s.setOp i .done).emit [.result i .noRuntime])) ∧
    (t.wait = .finite →
      stepGet s i t .acquire .run = some (s.setOp i (.get t (.dropUsers .noRuntime)))) ∧
    (t.create ≠ .none → s.lockFree i = true → s.idle = [] →
      stepGet s i t .pop .run = some (s.setOp i (.get t (.dropPermit .noRuntime)))) := by
  refine ⟨?_, ?_, ?_⟩
  · intro h
    dsimp only [stepGet]
    simp [hrt, h]
  · intro h
    dsimp only [stepGet]
    simp [h, hrt]
  · intro h hl hi
    dsimp only [stepGet]
    simp [hl, popIdle_eq_none.mpr hi, hrt, h, failPermit]

/-- **C10 (no runtime, configured timeouts).** `build()` fails exactly when some timeout is
configured and no runtime was given. -/
theorem C10_build (rt : Bool) (t : Timeouts) :
    buildOk rt t = false ↔
      (rt = false ∧ (t.wait ≠ .none ∨ t.create ≠ .none ∨ t.recycle ≠ .none)) := by
  simp only [buildOk, Bool.or_eq_false_iff, Bool.and_eq_false_iff, beq_eq_false_iff_ne, or_assoc]

theorem C10_no_timeout_recycle (cfg : Cfg) (acts : List Action) :
    ∀ op ∈ (run (init cfg) acts).ops, noTimeoutRecycle op :=
  fun op hop => (run_resultCause cfg acts op hop).noTimeoutRecycle

/-! ### `PoolBuilder`: what a sequence of configuration calls leaves behind -/

open Bld in
/-- **C10 (the builder writes what it is told).** Each configuration call of `PoolBuilder`
changes exactly the field it names and leaves the others alone: `max_size`, each of the three
timeouts and the queue mode are independent, `timeouts(t)` replaces all three timeouts,
`config(c)` replaces everything. -/
theorem C10_builder_frame (b : Conf) :
    (∀ n, (apply b (.maxSize n)).maxSize = n ∧ (apply b (.maxSize n)).tmo = b.tmo ∧
      (apply b (.maxSize n)).lifo = b.lifo) ∧
    (∀ t, (apply b (.timeouts t)).tmo = t ∧ (apply b (.timeouts t)).maxSize = b.maxSize ∧
      (apply b (.timeouts t)).lifo = b.lifo) ∧
    (∀ d, (apply b (.wait d)).tmo = { b.tmo with wait := d } ∧
      (apply b (.wait d)).maxSize = b.maxSize ∧ (apply b (.wait d)).lifo = b.lifo) ∧
    (∀ d, (apply b (.create d)).tmo = { b.tmo with create := d } ∧
      (apply b (.create d)).maxSize = b.maxSize ∧ (apply b (.create d)).lifo = b.lifo) ∧
    (∀ d, (apply b (.recycle d)).tmo = { b.tmo with recycle := d } ∧
      (apply b (.recycle d)).maxSize = b.maxSize ∧ (apply b (.recycle d)).lifo = b.lifo) ∧
    (∀ l, (apply b (.queueMode l)).lifo = l ∧ (apply b (.queueMode l)).maxSize = b.maxSize ∧
      (apply b (.queueMode l)).tmo = b.tmo) ∧
    (∀ c, apply b (.config c) = c) :=
  ⟨fun _ => ⟨rfl, rfl, rfl⟩, fun _ => ⟨rfl, rfl, rfl⟩, fun _ => ⟨rfl, rfl, rfl⟩,
   fun _ => ⟨rfl, rfl, rfl⟩, fun _ => ⟨rfl, rfl, rfl⟩, fun _ => ⟨rfl, rfl, rfl⟩, fun _ => rfl⟩

open Bld in
/-- **C10 (call order).** For any sequence of calls: a final `config(c)` wins over everything
before it; without any call the pool has the default size, no timeouts and Fifo; and what a
field holds in the end is what the *last* call that writes it said — calls that write other
fields in between do not matter (stated for `recycle_timeout` against `max_size`,
`wait_timeout`, `create_timeout` and `queue_mode`, the combination the pool's recycle timeout
rests on). -/
theorem C10_builder_order (dflt : Nat) (cs : List Call) :
    (∀ c, applyAll dflt (cs ++ [.config c]) = c) ∧
    applyAll dflt [] = { maxSize := dflt, tmo := {}, lifo := false } ∧
    (∀ d n w c l, (applyAll dflt (cs ++ [.recycle d, .maxSize n, .wait w, .create c, .queueMode l])).tmo.recycle = d) ∧
    (∀ d n, (applyAll dflt (cs ++ [.maxSize n, .recycle d])).maxSize = n ∧
      (applyAll dflt (cs ++ [.maxSize n, .recycle d])).tmo.recycle = d) := by
  simp only [applyAll, List.foldl_append]
  exact ⟨fun _ => rfl, rfl, fun _ _ _ _ _ => rfl, fun _ _ => ⟨rfl, rfl⟩⟩

/-- not vacuous -/
example : Bld.applyAll 64 [.wait (some 5), .maxSize 3, .recycle (some 7), .queueMode true] =
    { maxSize := 3, tmo := { wait := some 5, recycle := some 7 }, lifo := true } := rfl

end DeadpoolVerif
