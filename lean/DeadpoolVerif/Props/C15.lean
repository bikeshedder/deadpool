/-
C15 — a connection whose interaction panicked or broke is never reissued.

Property theorems only.  The pools built on `SyncWrapper` are the managed pool (all of C01–C13
applies to them verbatim) with a `Manager::recycle` that inspects the connection.
-/
import DeadpoolVerif.Lemmas.SyncPools
import DeadpoolVerif.Lemmas.SoloRun
import DeadpoolVerif.Props.C04

namespace DeadpoolVerif
namespace SP

/-- **C15 (what the three managers decide).** `recycle` rejects a poisoned wrapper (all three,
before anything is sent to the blocking pool), a connection the backend reports as broken
(r2d2 `has_broken`, diesel's broken transaction manager) and a connection failing its validity
check (sqlite's round trip, r2d2 `is_valid`, diesel's ping with `Verified`); it accepts a
connection with nothing wrong. -/
theorem C15_recycle_decides (k : Kind) (m : DieselMethod) (c : Conn) :
    (c.poisoned = true → recycleOk k m c = false ∧ checks k m c = []) ∧
    (c.broken = true → k ≠ .sqlite → recycleOk k m c = false) ∧
    (c.invalid = true → (k = .diesel → m = .verified) → recycleOk k m c = false) ∧
    (c.spoiled = false → recycleOk k m c = true) := by
  rcases c with ⟨p, b, i⟩
  cases p with
  | true => simp [recycleOk, checks, Conn.spoiled]
  | false => cases k <;> cases m <;> cases b <;> simp [recycleOk, checks, Check.passes, Conn.spoiled]

/-- r2d2: `is_valid` is consulted only when `has_broken` said no, `has_broken` always first -/
theorem C15_r2d2_check_order (m : DieselMethod) (c : Conn) (h : c.poisoned = false) :
    checks .r2d2 m c = if c.broken then [.hasBroken] else [.hasBroken, .isValid] := by
  simp [checks, h]

/-- **C15 (never reissued).** Let `spoiled id n` say that connection `id` was spoiled (a closure
panicked on it, it broke, it fails its check) by the end of its `n`-th hand-out, and let the
environment answer `Manager::recycle` honestly: never `Ok` for a spoiled connection.  Then in
every history — any interleaving of gets, returns, takes, resizes, retains, cancellations, hook
and manager outcomes — no hand-out is the `(n+1)`-th hand-out of a connection spoiled by the end
of its `n`-th. -/
theorem C15_spoiled_never_reissued (cfg : Cfg) (sp : Spoiled) (acts : List Action)
    (h : Honest sp (init cfg) acts) (i : Nat) (o : Obj)
    (ho : Ev.handout i o ∈ (run (init cfg) acts).log) (hn : 1 < o.handouts) :
    sp o.id (o.handouts - 1) = false :=
  ((J.init sp cfg).run h).log i o ho hn

/-- the same for the connections in callers' hands: whatever is checked out has passed an
honest check after every earlier use — stated on the log because `out` holds exactly the
objects of `handout` events -/
theorem C15_spoiled_never_reissued' (cfg : Cfg) (sp : Spoiled) (acts : List Action)
    (h : Honest sp (init cfg) acts) (n : Nat) (id : Nat) (hsp : sp id n = true) (hn : 0 < n) :
    ∀ i o, Ev.handout i o ∈ (run (init cfg) acts).log → o.id = id → o.handouts ≠ n + 1 := by
  intro i o ho hid hh
  have := C15_spoiled_never_reissued cfg sp acts h i o ho (by omega)
  rw [hid, hh] at this
  simp [hsp] at this

/-- **C15 (discarded and replaced).** When `recycle` rejects the connection, the get that popped
it sends it down the discard path (exactly one `detach`, then destroyed, `size -= 1`) and goes
back to popping with the slot it already holds: it takes another idle connection or creates a
new one — the caller sees no error.  (`C04_recycle_failure_discards`, `C04_discard_path` and
`C04_discarded_never_reissued` are the general statements.) -/
theorem C15_rejected_is_replaced (s : State) (i : Nat) (t : Timeouts) (k : Nat) (o : Obj) (susp : Bool)
    (hl : s.lockFree i = true) :
    stepGet s i t (.recycling k o susp) .err = some (s.setOp i (.get t (.unreadyLock o .retry))) ∧
    stepGet s i t (.unreadyLock o .retry) .run =
      some ({ s with size := s.size - 1, fault := decFault s.fault s.size 1 }.setOp i
        (.get t (.unreadyDetach o .retry))) ∧
    stepGet s i t (.unreadyDetach o .retry) .run =
      some ((s.emit [.detach i o.id, .destroy i o.id]).setOp i (.get t .pop)) :=
  ⟨(C04_recycle_failure_discards s i t k o susp).1, C04_discard_path s i t o .retry hl⟩

/-- **C15 (the driver of the correspondence check is covered).** What the sequential driver
does with one operation — start it and run it alone, `Manager::recycle` answered by the
manager's verdict `good` on the connection — is a run of the pool model (`run?` of an explicit
action list), and that history is honest for `spoiled id _ := ¬ good id`: the theorems above
apply to exactly the histories the differential run compares with the real pools. -/
theorem C15_driver_is_honest_run (good : Nat → Bool) (s s' : State) (spec : Spec) (i fuel : Nat)
    (h : solo (fun o => good o.id) s spec fuel = some (s', i)) :
    ∃ acts, run? s acts = some s' ∧ Honest (fun id _ => !good id) s acts := by
  simp only [solo, Option.map_eq_some_iff] at h
  obtain ⟨⟨e', s1, j⟩, h, rfl, rfl⟩ := h
  exact Solo.soloOp_honest_run (Solo.sp_env_honest good) h

/-! Non-vacuity: a pool of one connection; the connection is handed out, spoiled, returned;
an honest manager rejects it and the next get receives a new connection (id 1), with the
pool's size and permits as before. -/
def exSpoiled : Spoiled := fun id n => id == 0 && decide (n ≥ 1)
def exActs : List Action :=
  [.start (.get {}), .step 0 .run, .step 0 .run, .step 0 .run, .step 0 .ok, .step 0 .run,   -- get: creates 0
   .start (.ret 0), .step 1 .run, .step 1 .run, .step 1 .run,                              -- return it
   .start (.get {}), .step 2 .run, .step 2 .run, .step 2 .run, .step 2 .err,               -- recycle says no
   .step 2 .run, .step 2 .run, .step 2 .run, .step 2 .ok, .step 2 .run]                    -- discard, create 1

example :
    Honest exSpoiled (init { maxSize := 1 }) exActs ∧
    ((run (init { maxSize := 1 }) exActs).out.map (·.id)) = [1] ∧
    (run (init { maxSize := 1 }) exActs).size = 1 ∧
    Ev.destroy 2 0 ∈ (run (init { maxSize := 1 }) exActs).log := by
  decide

end SP
end DeadpoolVerif
