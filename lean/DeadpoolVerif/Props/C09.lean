/-
C09 — retain(), take() and detach keep the books straight.
-/
import DeadpoolVerif.Lemmas.Reach
import DeadpoolVerif.Lemmas.Log

namespace DeadpoolVerif

/-- **C09 (retain is exact).** `retain` with an arbitrary (stateful) predicate — modelled by
the answer of its `k`-th call — removes exactly the idle objects for which the predicate
answered `false`, keeps the others in their order, reports `retained` = number kept and
`removed` = the removed ones in order, calls `detach` once for each removed object, and
touches neither the checked-out objects, nor the semaphore (capacity), nor `max_size`;
`size` drops by the number removed. -/
theorem C09_retain_exact (s s' : State) (i : Nat) (keep : List Bool)
    (h : stepRetain s i keep = some s') :
    s'.idle = selectBy keep true 0 s.idle ∧
    s'.out = s.out ∧ s'.sem = s.sem ∧ s'.maxSize = s.maxSize ∧ s'.users = s.users ∧
    s'.size = s.size - (selectBy keep false 0 s.idle).length ∧
    s'.log = s.log ++ retainEvs i keep 0 s.idle ++
      [Ev.retained i (selectBy keep true 0 s.idle).length ((selectBy keep false 0 s.idle).map Obj.id)] ∧
    (∀ id, detachCnt id (retainEvs i keep 0 s.idle) = idCnt id (selectBy keep false 0 s.idle)) := by
  leaves [stepRetain] at h
  simp only [← retainKept_eq, ← retainRemoved_eq]
  exact ⟨rfl, rfl, rfl, rfl, rfl, rfl, (List.append_assoc ..).symm,
    fun id => (retainEvs_counts i keep 0 s.idle id).1⟩

/-- kept and removed objects partition the idle queue -/
theorem C09_retain_partition (keep : List Bool) (l : List Obj) :
    (selectBy keep true 0 l).length + (selectBy keep false 0 l).length = l.length := by
  rw [← retainKept_eq, ← retainRemoved_eq]
  exact retain_length keep 0 l

/-- the objects `retain` keeps (and those it removes) are a sub-list of the idle queue: their
relative order — hence the reuse order of the survivors under either queue mode (C08) — is the
one they had before, whatever the predicate answered and wherever the removed ones sat -/
theorem C09_retain_keeps_order (keep : List Bool) (b : Bool) (k : Nat) (l : List Obj) :
    (selectBy keep b k l).Sublist l :=
  selectBy_sublist keep b k l

/-- in particular the object at the front (offered first by Fifo) and at the back (offered first
by Lifo) of the queue after `retain` are the first / last kept ones of the old queue: nothing
is moved into a removed object's place -/
theorem C09_retain_step_keeps_order (s s' : State) (i : Nat) (keep : List Bool)
    (h : stepRetain s i keep = some s') : s'.idle.Sublist s.idle := by
  rw [(C09_retain_exact s s' i keep h).1]
  exact C09_retain_keeps_order keep true 0 s.idle

/-- **C09 (take).** `Object::take` — the four steps of `detach_object`, run from any state
whose `size` does not exceed `max_size` (always the case unless a shrink left a residue):
the value is handed to the caller (`taken` event after exactly one `detach`), `size` and
`users` drop by one, and one capacity token goes back to the semaphore (a slot is free for
a new object). -/
theorem C09_take (s : State) (i : Nat) (o : Obj) (hop : s.ops[i]? = some (.take .users o false))
    (hlock : s.lock = none) (hsz : s.size ≤ s.maxSize) :
    ∃ s', run? s [.step i .run, .step i .run, .step i .run, .step i .run] = some s' ∧
      s'.ops[i]? = some .done ∧ s'.size = s.size - 1 ∧ s'.users = s.users - 1 ∧
      s'.sem = s.sem.addPermits 1 ∧ s'.idle = s.idle ∧ s'.out = s.out ∧ s'.maxSize = s.maxSize ∧
      s'.log = s.log ++ [.detach i o.id, .taken i o.id] := by
  simp only [run?, step, stepOp, hop, stepTake, BEq.rfl, if_true, State.setOp, Option.map_some,
    Option.bind_some, State.lockFree, hlock, Bool.not_true, Bool.false_eq_true, if_false, hsz,
    decide_true, List.set_set, getElem?_set_self' hop, State.emit]
  refine ⟨_, rfl, ?_, rfl, rfl, rfl, rfl, rfl, rfl, ?_⟩
  · exact getElem?_set_self' hop
  · simp

/-- **C09 (detach exactly once).** In every reachable state, for every object id:
`Manager::detach` has been called exactly as many times as the object has left the pool
(destroyed, taken, or removed by retain) — which is at most once — and never for an object
that is still idle, checked out or in the hands of an operation; and no object is in two
places. -/
theorem C09_detach_exactly_once (s : State) (r : Reach s) (id : Nat) :
    detachCnt id s.log = goneCnt id s.log ∧ detachCnt id s.log ≤ 1 ∧
    (0 < idCnt id s.idle + idCnt id s.out + sumW (Op.heldCnt id) s.ops → detachCnt id s.log = 0) ∧
    idCnt id s.idle + idCnt id s.out + sumW (Op.heldCnt id) s.ops ≤ 1 := by
  have p := r.cons.one_place id
  have d := r.cons.detach id
  omega

theorem C09_detach_exactly_once_run (cfg : Cfg) (acts : List Action) (id : Nat) :
    detachCnt id (run (init cfg) acts).log = goneCnt id (run (init cfg) acts).log ∧
    detachCnt id (run (init cfg) acts).log ≤ 1 :=
  ⟨(C09_detach_exactly_once _ (reach_run cfg acts) id).1,
   (C09_detach_exactly_once _ (reach_run cfg acts) id).2.1⟩

/-- an object that is gone never comes back: it is nowhere in the pool in any later state,
in particular it is never handed out again -/
theorem C09_gone_is_gone (cfg : Cfg) (acts more : List Action) (id : Nat)
    (hg : 0 < goneCnt id (run (init cfg) acts).log) :
    idCnt id (run (init cfg) (acts ++ more)).idle = 0 ∧
    idCnt id (run (init cfg) (acts ++ more)).out = 0 ∧
    sumW (Op.heldCnt id) (run (init cfg) (acts ++ more)).ops = 0 := by
  have := (reach_run cfg (acts ++ more)).cons.one_place id
  have := goneCnt_run_mono (run (init cfg) acts) more id
  rw [← run_append] at this
  omega

/-- **C09 (a panicking `Manager::detach` does not upset the books).** When `detach` panics
inside `Object::take` or on the surplus path of a return, everything but the way the call
ends is as on the normal path: `size`, `users`, the semaphore, the idle queue and the set of
checked-out objects are the same, `detach` was called once for the object, and the object is
destroyed (by the unwinding) instead of being handed to the caller of `take`. -/
theorem C09_detach_panic_books (s s1 s2 s3 s4 : State) (i : Nat) (o : Obj) (add : Bool)
    (h1 : stepTake s i .detach o add = some s1) (h2 : stepTakePanic s i o = some s2)
    (h3 : stepRet s i .detach o = some s3) (h4 : stepRetPanic s i o = some s4) :
    (s2.size = s1.size ∧ s2.users = s1.users ∧ s2.sem = s1.sem ∧ s2.idle = s1.idle ∧
      s2.out = s1.out ∧ s2.maxSize = s1.maxSize ∧ s2.ops = s1.ops ∧
      s1.log = s.log ++ [.detach i o.id, .taken i o.id] ∧
      s2.log = s.log ++ [.detach i o.id, .destroy i o.id, .opPanic i]) ∧
    (s4.size = s3.size ∧ s4.users = s3.users ∧ s4.sem = s3.sem ∧ s4.idle = s3.idle ∧
      s4.out = s3.out ∧ s4.maxSize = s3.maxSize ∧ s4.ops = s3.ops ∧
      s3.log = s.log ++ [.detach i o.id, .destroy i o.id] ∧
      s4.log = s.log ++ [.detach i o.id, .destroy i o.id, .opPanic i]) := by
  simp only [stepTake, stepTakePanic, stepRet, stepRetPanic, Option.some.injEq] at h1 h2 h3 h4
  subst h1 h2 h3 h4
  exact ⟨⟨rfl, rfl, rfl, rfl, rfl, rfl, rfl, rfl, rfl⟩, ⟨rfl, rfl, rfl, rfl, rfl, rfl, rfl, rfl, rfl⟩⟩

/-! Non-vacuity: retain with a stateful predicate (keep, drop, keep) over three idle objects -/

example : selectBy [true, false, true] true 0
    [{ id := 4, created := 0 }, { id := 7, created := 0 }, { id := 9, created := 0 }] =
    [{ id := 4, created := 0 }, { id := 9, created := 0 }] := by decide

end DeadpoolVerif
