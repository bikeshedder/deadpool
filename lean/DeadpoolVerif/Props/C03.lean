/-
C03 — abandoning get() at any suspension point is harmless.
-/
import DeadpoolVerif.Lemmas.SoloGet
import DeadpoolVerif.Lemmas.Reach

namespace DeadpoolVerif

/-- the steps of operation `i` alone, with the given environment outcomes (any mixture of
run / ok / err / pending / panic / deadline / cancel) -/
def soloActs (i : Nat) (ocs : List Outcome) : List Action := ocs.map (Action.step i)

theorem solo_run {s0 : State} {t : Timeouts} (w0 : s0.sem.WF)
    (hi : s0.ops.length ∉ s0.sem.waiting) (ocs : List Outcome) {s s2 : State}
    (at_ : SoloAt s0 s s0.ops.length t) (h : run? s (soloActs s0.ops.length ocs) = some s2) :
    SoloAt s0 s2 s0.ops.length t :=
  run_of_run? h ▸ run_induction_on (Q := fun a => ∃ oc, a = .step s0.ops.length oc)
    (fun _ ha => (List.mem_map.mp ha).imp fun _ e => e.2.symm) at_
    fun _ _ _ at_ ⟨_, e⟩ hst => solo_step w0 hi at_ (e ▸ hst)

theorem start_get_solo {s0 s1 : State} {t : Timeouts}
    (h : step s0 (.start (.get t)) = some s1) : SoloRel s0 s1 s0.ops.length (.get t .enter) := by
  cases h
  exact ⟨rfl, rfl, rfl, ⟨.refl _, rfl, rfl, rfl, rfl, Nat.le_refl _⟩⟩

/-- the outcome of a solo get() that ended without handing out an object -/
theorem solo_done {s0 s2 : State} {t : Timeouts} {ocs : List Outcome} (r0 : Reach s0)
    (h : run? s0 (.start (.get t) :: soloActs s0.ops.length ocs) = some s2)
    (hdone : s2.ops[s0.ops.length]? = some .done) (hout : s2.out = s0.out) :
    SoloRel s0 s2 s0.ops.length .done := by
  have hi : s0.ops.length ∉ s0.sem.waiting := fun hw =>
    let ⟨_, h1, _⟩ := r0.link.waiters _ hw
    Nat.lt_irrefl _ (lt_of_getElem? h1)
  simp only [run?, Option.bind_eq_some_iff] at h
  obtain ⟨s1, hst, h⟩ := h
  cases solo_run r0.link.wf hi ocs (.running .enter (start_get_solo hst)) h with
  | running pc r => simp [r.ops] at hdone
  | handedOut o ho _ => simpa [hout] using congrArg List.length ho
  | done d => exact d

/-- **C03 (as if the call had never been made).** Take any reachable state `s0` (any
preceding history).  Start a get() there and let it run alone through *any* sequence of
environment outcomes — hooks and manager succeeding, failing, staying pending, timing out,
panicking, the caller dropping the future at any suspension point — for as long as one
likes.  If the call ends without handing out an object, then the pool is exactly as before,
except for the idle objects the call discarded:
the semaphore (permits, waiters, assigned tokens, closed flag) is *equal* to what it was — no
slot stays reserved and nobody is left waiting for it; `users` is equal; the objects in
callers' hands are the same; the idle queue is a sub-list of what it was; `size` dropped by
exactly the number of idle objects discarded (so `status()` reports the earlier figures,
reduced only by the objects discarded); `max_size` and the mutex are untouched. -/
theorem C03_as_if_never_called (s0 s2 : State) (r0 : Reach s0) (t : Timeouts) (ocs : List Outcome)
    (h : run? s0 (.start (.get t) :: soloActs s0.ops.length ocs) = some s2)
    (hdone : s2.ops[s0.ops.length]? = some .done) (hout : s2.out = s0.out) :
    s2.sem = s0.sem ∧ s2.users = s0.users ∧ s2.out = s0.out ∧ s2.idle.Sublist s0.idle ∧
    s2.size + (s0.idle.length - s2.idle.length) = s0.size ∧ s2.maxSize = s0.maxSize ∧
    s2.lock = s0.lock ∧ s2.ops = s0.ops ++ [.done] := by
  have d := solo_done r0 h hdone hout
  have hl := d.frame.idle.length_le
  -- `users` and `size` are what `Acct` makes of the operations, `out` and `idle`
  have a0 := r0.acct
  have a2 := (r0.run? _ h).acct
  refine ⟨d.sem, ?_, d.out, d.frame.idle, ?_, d.frame.max, d.frame.lock, d.ops⟩
  · rw [a2.usr, a0.usr, d.out, d.sumW_done Op.usersW rfl]
  · have z2 := a2.siz
    rw [d.out, d.sumW_done Op.sizeW rfl] at z2
    have z0 := a0.siz
    omega

/-- the same for the state reached by any history from any configuration -/
theorem C03_as_if_never_called_run (cfg : Cfg) (acts : List Action) (t : Timeouts)
    (ocs : List Outcome) (s2 : State)
    (h : run? (run (init cfg) acts)
      (.start (.get t) :: soloActs (run (init cfg) acts).ops.length ocs) = some s2)
    (hdone : s2.ops[(run (init cfg) acts).ops.length]? = some .done)
    (hout : s2.out = (run (init cfg) acts).out) :
    s2.sem = (run (init cfg) acts).sem ∧ s2.users = (run (init cfg) acts).users ∧
    s2.status.2.1 + ((run (init cfg) acts).idle.length - s2.idle.length) =
      (run (init cfg) acts).status.2.1 ∧
    s2.status.1 = (run (init cfg) acts).status.1 := by
  obtain ⟨h1, h2, _, _, h5, h6, _, _⟩ :=
    C03_as_if_never_called _ s2 (reach_run cfg acts) t ocs h hdone hout
  rw [State.status_eq, State.status_eq]
  exact ⟨h1, h2, h5, h6⟩

/-- **C03 (objects).** In the situation of `C03_as_if_never_called`: every object the call
took out of the idle queue and every object it created has been detached from the manager
exactly once during the call, is in nobody's hands, is not idle, and is gone for good (by
`Conserve` a gone id is never placed anywhere again, in particular never handed out). -/
theorem C03_discarded_detached_once (s0 s2 : State) (r0 : Reach s0) (t : Timeouts)
    (ocs : List Outcome)
    (h : run? s0 (.start (.get t) :: soloActs s0.ops.length ocs) = some s2)
    (hdone : s2.ops[s0.ops.length]? = some .done) (hout : s2.out = s0.out) (id : Nat)
    -- an idle object that disappeared, or an object created by the call
    (hcase : (idCnt id s0.idle = 1 ∧ idCnt id s2.idle = 0) ∨ (s0.nextId ≤ id ∧ id < s2.nextId)) :
    detachCnt id s2.log = detachCnt id s0.log + 1 ∧ goneCnt id s2.log = 1 ∧
    idCnt id s2.out = 0 ∧ idCnt id s2.idle = 0 ∧ sumW (Op.heldCnt id) s2.ops = 0 := by
  have d := solo_done r0 h hdone hout
  have p0 := r0.cons.place id
  have p2 := (r0.run? _ h).cons.place id
  have hs := idCnt_sublist d.frame.idle id
  have held := d.sumW_done (Op.heldCnt id) rfl
  rw [hout] at p2
  rw [(r0.run? _ h).cons.detach id, r0.cons.detach id, hout]
  -- before the call `id` is idle or not allocated, so it is nowhere else and not gone; at the
  -- end it is allocated, and neither idle nor anywhere else: it is gone
  have b2 := ltInd_le_one id s2.nextId
  have m := ltInd_mono id d.frame.nid
  rcases hcase with ⟨h1, h2⟩ | ⟨h1, h2⟩
  · omega
  · have e0 : ltInd id s0.nextId = 0 := if_neg (Nat.not_lt.mpr h1)
    have e2 : ltInd id s2.nextId = 1 := if_pos h2
    omega

/-! Non-vacuity: a get() that rejects the idle object, creates a new one, is suspended in a
`post_create` hook and is then cancelled. -/

def C03_demo_cfg : Cfg := { maxSize := 2, postC := [true] }

def C03_demo_prefix : List Action :=
  let g : Spec := .get {}
  [ .start g, .step 0 .run, .step 0 .run, .step 0 .run, .step 0 .ok, .step 0 .run, .step 0 .ok,
    .start (.ret 0), .step 1 .run, .step 1 .run, .step 1 .run ]

def C03_demo_ocs : List Outcome :=
  [.run, .run, .run, .err, .run, .run, .run, .ok, .run, .pending, .cancel, .run, .run, .run, .run]

example : (run? (run (init C03_demo_cfg) C03_demo_prefix)
    (.start (.get {}) :: soloActs 2 C03_demo_ocs)).isSome = true := by decide
example : ((run? (run (init C03_demo_cfg) C03_demo_prefix)
    (.start (.get {}) :: soloActs 2 C03_demo_ocs)).map (fun s => (s.ops[2]?, s.out, s.idle, s.size))) =
    some (some .done, [], [], 0) := by decide
example : (run (init C03_demo_cfg) C03_demo_prefix).idle.length = 1 := by decide

end DeadpoolVerif
