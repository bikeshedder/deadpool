/-
C04 — only freshly verified objects are handed out; errors surface exactly.
-/
import DeadpoolVerif.Lemmas.LastEv
import DeadpoolVerif.Lemmas.GetLocal
import DeadpoolVerif.Props.C09

namespace DeadpoolVerif

/-- **C04 (hand-out only after the last check succeeded).** A step of get() puts an object
into a caller's hands only in three situations: the *last* callback of the recycle sequence
(pre hooks, `Manager::recycle`, post hooks — no callback with index `> k` remains) answered ok; the last
`post_create` hook answered ok; or creation finished and there is no `post_create` hook.
Any other outcome at any other point leaves the set of checked-out objects unchanged. -/
theorem C04_handout_requires_all_ok (s s' : State) (i : Nat) (t : Timeouts) (pc : GPc) (oc : Outcome)
    (h : stepGet s i t pc oc = some s') (hout : s'.out ≠ s.out) :
    (∃ k o susp, pc = .recycling k o susp ∧ oc = .ok ∧ s.cfg.nRecycle ≤ k + 1 ∧
      s'.out = s.out ++ [{ o with rc := o.rc + 1, recycled := some s.now, handouts := o.handouts + 1 }]) ∨
    (∃ k o susp, pc = .postCreate k o susp ∧ oc = .ok ∧ s.cfg.postC.length ≤ k + 1 ∧
      s'.out = s.out ++ [{ o with handouts := o.handouts + 1 }]) ∨
    (∃ o, pc = .createSize o ∧ oc = .run ∧ s.cfg.postC.length = 0 ∧
      s'.out = s.out ++ [{ o with handouts := o.handouts + 1 }]) := by
  obtain ⟨_, _, _, _, _, a, m⟩ := stepGet_eff h
  have ho := a.out
  cases m with
  | out _ kind =>
    obtain ⟨_, k, b, e, h1, h2, rfl⟩ | ⟨_, k, b, e, h1, h2, rfl⟩ | ⟨_, e, h1, h2, rfl⟩ := kind <;>
      cases e
    · exact .inl ⟨k, _, b, rfl, h1, h2, ho⟩
    · exact .inr (.inl ⟨k, _, b, rfl, h1, h2, ho⟩)
    · exact .inr (.inr ⟨_, rfl, h1, h2, ho⟩)
  | _ => exact absurd ho hout

/-- **C04 (registration order).** The callbacks of the recycle sequence are entered one by
one in registration order on the *same* object: get() enters callback 0 when it pops an
idle object, and callback `k + 1` exactly when callback `k` answered ok (emitting the call
event of that callback with the object's unchanged metrics). -/
theorem C04_recycle_sequence_in_order (s : State) (i : Nat) (t : Timeouts) (k : Nat) (o : Obj)
    (susp : Bool) (hk : k + 1 < s.cfg.nRecycle) :
    stepGet s i t (.recycling k o susp) .ok =
      some ((s.setOp i (.get t (.recycling (k + 1) o false))).emit
        [.call i (s.cfg.recyclePhase (k + 1)).1 (s.cfg.recyclePhase (k + 1)).2 o]) := by
  simp [stepGet, hk, arriveRecycle]

theorem C04_recycle_sequence_starts_at_zero (s s' : State) (i : Nat) (t : Timeouts)
    (o : Obj) (rest : List Obj) (hl : s.lockFree i = true)
    (hp : popIdle s.cfg.mode s.idle = some (o, rest)) (h : stepGet s i t .pop .run = some s') :
    s'.ops = s.ops.set i (.get t (.recycling 0 o false)) ∧ s'.idle = rest := by
  simp only [stepGet, hl, Bool.not_true, Bool.false_eq_true, if_false, hp, arriveRecycle,
    Option.some.injEq] at h
  subst h
  exact ⟨rfl, rfl⟩

theorem C04_post_create_in_order (s : State) (i : Nat) (t : Timeouts) (k : Nat) (o : Obj)
    (susp : Bool) (hk : k + 1 < s.cfg.postC.length) :
    stepGet s i t (.postCreate k o susp) .ok =
      some ((s.setOp i (.get t (.postCreate (k + 1) o false))).emit [.call i .postC (k + 1) o]) := by
  simp [stepGet, arrivePostCreate, hk]

/-- **C04 (a failed recycling step discards the object and get() moves on silently).** If
any callback of the recycle sequence fails, times out, is cancelled or panics, the object
goes to the discard path (`UnreadyObject::drop`): a recycle *error or timeout* continues with
`retry` (the get pops the next idle object or creates one, with the same slot; nothing is
reported to the caller), a cancellation / panic unwinds. -/
theorem C04_recycle_failure_discards (s : State) (i : Nat) (t : Timeouts) (k : Nat) (o : Obj)
    (susp : Bool) :
    stepGet s i t (.recycling k o susp) .err = some (s.setOp i (.get t (.unreadyLock o .retry))) ∧
    stepGet s i t (.recycling k o susp) .panic =
      some (s.setOp i (.get t (.unreadyLock o (.fail .panicked)))) ∧
    (susp = true → stepGet s i t (.recycling k o susp) .cancel =
      some (s.setOp i (.get t (.unreadyLock o (.fail .cancelled))))) ∧
    (∀ s', stepGet s i t (.recycling k o susp) .deadline = some s' →
      s' = s.setOp i (.get t (.unreadyLock o .retry))) := by
  refine ⟨rfl, rfl, by rintro rfl; rfl, fun s' h => ?_⟩
  simp only [stepGet] at h
  split at h
  · exact (Option.some.inj h).symm
  · cases h

/-- the discard path: `size -= 1`, then exactly one `detach` and the destruction, then the
get goes on (`retry`: back to popping with the same slot) or unwinds (`fail`) -/
theorem C04_discard_path (s : State) (i : Nat) (t : Timeouts) (o : Obj) (c : Cont)
    (hl : s.lockFree i = true) :
    stepGet s i t (.unreadyLock o c) .run =
      some ({ s with size := s.size - 1, fault := decFault s.fault s.size 1 }.setOp i
        (.get t (.unreadyDetach o c))) ∧
    stepGet s i t (.unreadyDetach o c) .run =
      some ((s.emit [.detach i o.id, .destroy i o.id]).setOp i
        (match c with | .retry => .get t .pop | .fail r => .get t (.dropPermit r))) := by
  constructor
  · simp [stepGet, hl]
  · cases c <;> rfl

/-- an object that went down the discard path is never handed out afterwards (nor idle,
nor in anybody's hands): `Conserve` + append-only log -/
theorem C04_discarded_never_reissued (cfg : Cfg) (acts more : List Action) (i id : Nat)
    (h : Ev.destroy i id ∈ (run (init cfg) acts).log) :
    idCnt id (run (init cfg) (acts ++ more)).out = 0 ∧
    idCnt id (run (init cfg) (acts ++ more)).idle = 0 ∧
    sumW (Op.heldCnt id) (run (init cfg) (acts ++ more)).ops = 0 := by
  have hg : 0 < goneCnt id (run (init cfg) acts).log :=
    Nat.lt_of_lt_of_le (by simp [Ev.goneIds, eqInd]) (sumW_le_of_mem (fun e => natCnt id e.goneIds) h)
  obtain ⟨h1, h2, h3⟩ := C09_gone_is_gone cfg acts more id hg
  exact ⟨h2, h1, h3⟩

/-- **C04 (only documented errors).** In every reachable state every failing get() is
about to report one of: the creation error (`Backend`), a `post_create` hook error,
`Timeout(Wait)`, `Timeout(Create)`, `Closed`, `NoRuntimeSpecified` (or it was cancelled /
panicked) — never a recycling error, never `Timeout(Recycle)`; and an error that arises
while an object is in hand can only be a `post_create` hook error, a panic or a cancellation. -/
theorem C04_error_variants (cfg : Cfg) (acts : List Action) :
    ∀ op ∈ (run (init cfg) acts).ops, resultCause op :=
  run_resultCause cfg acts

/-- **C04 (trace level: what stands before a hand-out).** In the event log of *any* history,
every hand-out to operation `i` is immediately preceded — among the events of that operation —
by the call of the **last** callback of the recycle sequence on the same object (its metrics
as they were before this hand-out: `handouts` and `recycle_count` one lower, same creation
instant), or by the call of the last `post_create` hook on the freshly created object, or, if
there is no `post_create` hook, by the creation itself.  Together with
`C04_recycle_sequence_in_order` / `C04_post_create_in_order` (a callback is entered only when
the previous one answered ok) this is the property's "every step succeeding, in registration
order" read off the log. -/
theorem C04_handout_preceded_by_last_check (cfg : Cfg) (acts : List Action) (i : Nat) (o' : Obj)
    (l1 l2 : List Ev)
    (h : evsOf i (run (init cfg) acts).log = l1 ++ Ev.handout i o' :: l2) :
    ∃ l0 e, l1 = l0 ++ [e] ∧ HandoutCause cfg i e o' := by
  have t := (run_tr cfg acts).hand i
  rw [run_cfg, h] at t
  exact caused_split t

/-- **C04 (trace level: inside a callback).** In every reachable state, the last event logged
by a get() that is inside a callback is the call of exactly that callback, on the object it
has in hand: nothing of that get() happens between entering a check and its answer. -/
theorem C04_inside_callback (cfg : Cfg) (acts : List Action) (i : Nat) (op : Op) (e : Ev)
    (hop : (run (init cfg) acts).ops[i]? = some op) (he : op.lastEv cfg i = some e) :
    (evsOf i (run (init cfg) acts).log).getLast? = some e := by
  have t := (run_tr cfg acts).last i op e hop
  rw [run_cfg] at t
  exact t he

/-- both are about something: a get that recycles an idle object through one pre hook and
`Manager::recycle` -/
example :
    let cfg : Cfg := { maxSize := 1, pre := [false] }
    let acts : List Action :=
      [ .start (.get {}), .step 0 .run, .step 0 .run, .step 0 .run, .step 0 .ok, .step 0 .run,
        .start (.ret 0), .step 1 .run, .step 1 .run, .step 1 .run,
        .start (.get {}), .step 2 .run, .step 2 .run, .step 2 .run, .step 2 .ok, .step 2 .ok ]
    (evsOf 2 (run (init cfg) acts).log).length = 4 ∧
    (evsOf 2 (run (init cfg) acts).log)[2]?.map Ev.isHandout = some true := by
  decide

end DeadpoolVerif
