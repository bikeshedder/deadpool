/-
Sequential use of the pool model: one operation at a time, run from its start to its end, with
an *environment* that answers the callbacks (create, hooks, `Manager::recycle`) from a state of
its own.  The backend correspondence checks (C15, C16, C17) drive the pool model this way.

`soloWith` is nothing but a particular way of choosing actions: `soloWith_run` (Lemmas/SoloRun)
shows that its result is `run?` of the action list `soloActs`, so every theorem about all
action lists covers what these drivers do.

Import-free apart from the pool model (linked into the `dpmodel` driver).
-/
import DeadpoolVerif.Model.Managed

namespace DeadpoolVerif
namespace Solo

/-- the environment: from its own state and the pool state it decides what happens next to
operation `i` (`none`: nothing more, the operation is left as it is) -/
abbrev Env (σ : Type) := σ → State → Nat → Option (Outcome × σ)

/-- run operation `i` alone until the environment stops, a step is refused, or the fuel is used up -/
def soloWith {σ : Type} (env : Env σ) (e : σ) (s : State) (i : Nat) : Nat → σ × State
  | 0 => (e, s)
  | fuel + 1 =>
    match env e s i with
    | none => (e, s)
    | some (oc, e') =>
      match step s (.step i oc) with
      | some s' => soloWith env e' s' i fuel
      | none => (e, s)

/-- the actions `soloWith` takes -/
def soloActs {σ : Type} (env : Env σ) (e : σ) (s : State) (i : Nat) : Nat → List Action
  | 0 => []
  | fuel + 1 =>
    match env e s i with
    | none => []
    | some (oc, e') =>
      match step s (.step i oc) with
      | some s' => .step i oc :: soloActs env e' s' i fuel
      | none => []

/-- the default answers when one caller uses the pool: internal steps run, `create` and the
hooks succeed; `recycle` is what the caller of this function says about the object -/
def defaultOutcome (recycleOk : Obj → Bool) (s : State) (i : Nat) : Option Outcome :=
  match s.ops[i]? with
  | some (.get _ (.recycling k o _)) =>
    some (if k = s.cfg.pre.length then (if recycleOk o then .ok else .err) else .ok)
  | some (.get _ (.creating _)) => some .ok
  | some (.get _ (.postCreate ..)) => some .ok
  | some .done => none
  | some _ => some .run
  | none => none

/-- the object whose `Manager::recycle` is being answered at this point, if that is where
operation `i` stands -/
def atRecycle (s : State) (i : Nat) : Option Obj :=
  match s.ops[i]? with
  | some (.get _ (.recycling k o _)) => if k = s.cfg.pre.length then some o else none
  | _ => none

/-- start an operation and run it to its end -/
def soloOp {σ : Type} (env : Env σ) (e : σ) (s : State) (sp : Spec) (fuel : Nat := 200) :
    Option (σ × State × Nat) :=
  match step s (.start sp) with
  | some s' => let r := soloWith env e s' s.ops.length fuel; some (r.1, r.2, s.ops.length)
  | none => none

end Solo
end DeadpoolVerif
